import MemVerif.Model.Lists
/-!
L2 — the unordered free list (`free_memory_list`, `src/detail/free_list.cpp`) **with its pointer encoding**: memory is
a map from addresses to the pointer-sized word stored there (`list_get_next` / `list_set_next` read and write the first
word of a node), the list object holds `first_` and `capacity_`. Each member function is written as the code is: the
loops of `insert_impl` and `list_search_array` as recursions over the node count / a fuel.

`Props/C01Heap.lean` (lemmas in `Lemmas/HeapList.lean`) proves that these functions refine the sequence-level model
`FreeList` (L1, `Model/Lists.lean`) under the representation predicate `Chain`, and that they write only into the first
word of free nodes.
-/
namespace MemVerif.Model

/-- memory: the word stored at an address (`0` = `nullptr`) -/
abbrev Heap := Nat → Nat

def Heap.set (h : Heap) (a v : Nat) : Heap := fun x => if x = a then v else h x

/-- `free_memory_list` with its memory -/
structure HList where
  ns : Nat
  first : Nat := 0
  cap : Nat := 0
  heap : Heap

/-- the loop of `insert_impl`: `list_set_next(cur, cur + node_size)` for the first `k` nodes from `cur` -/
def linkRun (h : Heap) (cur ns : Nat) : Nat → Heap
  | 0 => h
  | k + 1 => linkRun (h.set cur (cur + ns)) (cur + ns) ns k

/-- `insert_impl(mem, size)`: `none` = undefined behaviour (`no_nodes == 0`) -/
def HList.insertImpl (l : HList) (mem size : Nat) : Option HList :=
  let k := size / l.ns
  if k = 0 then none
  else
    let h1 := linkRun l.heap mem l.ns (k - 1)
    let last := mem + (k - 1) * l.ns
    some { l with heap := h1.set last l.first, first := mem, cap := l.cap + k }

/-- `allocate()`; precondition `!empty()` (`first_ != nullptr`) -/
def HList.allocate (l : HList) : Option (HList × Nat) :=
  if l.first = 0 then none
  else some ({ l with first := l.heap l.first, cap := l.cap - 1 }, l.first)

/-- `deallocate(ptr)` -/
def HList.deallocate (l : HList) (p : Nat) : HList :=
  { l with heap := l.heap.set p l.first, first := p, cap := l.cap + 1 }

/-- the interval `list_search_array` returns -/
structure Interval where
  prev : Nat
  first : Nat
  last : Nat
  next : Nat
deriving Repr, DecidableEq

/-- the `while (i.next)` loop of `list_search_array`; `fuel` bounds the number of iterations (the list length) -/
def searchLoop (h : Heap) (ns need : Nat) : Nat → Interval → Nat → Option Interval
  | 0, _, _ => none
  | fuel + 1, i, sofar =>
    if i.next = 0 then none
    else if i.last + ns ≠ i.next then
      searchLoop h ns need fuel ⟨i.last, i.next, i.next, h i.next⟩ ns
    else
      let i' : Interval := ⟨i.prev, i.first, i.next, h i.next⟩
      if sofar + ns ≥ need then some i' else searchLoop h ns need fuel i' (sofar + ns)

/-- `list_search_array(first, bytes_needed, node_size)` on a list of `fuel` nodes -/
def listSearchArray (h : Heap) (first need ns fuel : Nat) : Option Interval :=
  searchLoop h ns need fuel ⟨0, first, first, h first⟩ ns

/-- `allocate(n)`: `some (l, none)` = `nullptr`; `len` is the list length (only used as the loop bound) -/
def HList.allocateBytes (l : HList) (n len : Nat) : Option (HList × Option Nat) :=
  if n ≤ l.ns then (l.allocate).map fun (l', x) => (l', some x)
  else if l.first = 0 then none
  else
    match listSearchArray l.heap l.first n l.ns len with
    | none => some (l, none)
    | some i =>
      let cnt := (i.last + l.ns - i.first) / l.ns
      let l' := if i.prev ≠ 0 then { l with heap := l.heap.set i.prev i.next } else { l with first := i.next }
      some ({ l' with cap := l.cap - cnt }, some i.first)

/-- `deallocate(ptr, n)` -/
def HList.deallocateBytes (l : HList) (p n : Nat) : Option HList :=
  if n ≤ l.ns then some (l.deallocate p) else l.insertImpl p (ceilNodes n l.ns * l.ns)

end MemVerif.Model
