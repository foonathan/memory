import MemVerif.Model.CollRun
import MemVerif.Lemmas.Cells
/-!
Ghost-instrumented histories over a `memory_pool_collection` with **node and array operations** (property C01).

The ledger `live` is a list of *cells* `(address, size key)`: a node is one cell, an array of `k` cells of the bucket that
serves `size` is entered as its `k` cells. `arrs` remembers the arrays the caller holds, `(address, count, size)`, so that
a release can name one; it is performed with the count and size the array was requested with (the caller's contract).
-/
namespace MemVerif.Model

/-- the `k` cell entries of an array at `a` in a bucket with nodes of `ns` bytes, requested with key `s` -/
def arrEntries (ns a s k : Nat) : List (Nat × Nat) := (blockNodes a ns k).map fun x => (x, s)

/-- `l` without the elements of `E` -/
def removeAllOf {α} [DecidableEq α] (l E : List α) : List α := l.filter (fun e => decide (e ∉ E))

/-- the ledger without the cells of an array -/
def removeEntries (live E : List (Nat × Nat)) : List (Nat × Nat) := removeAllOf live E

structure GCollA where
  c : Coll
  live : List (Nat × Nat) := []
  arrs : List (Nat × Nat × Nat) := []
deriving Repr, DecidableEq

inductive COpA
  | node (op : COpn)                       -- `allocate_node`, `try_allocate_node`, `deallocate_node` as in `COpn`
  | allocArray (count size : Nat)          -- `allocate_array(count, size)`
  | tryAllocArray (count size : Nat)       -- `try_allocate_array(count, size)`
  | deallocArray (j : Nat)                 -- `deallocate_array(ptr, count, size)` of the `j`-th array the caller holds
  | reserve (size capacity : Nat)          -- `reserve(size, capacity)`: more memory for the bucket of `size`
deriving Repr, DecidableEq

/-- number of cells of the bucket with nodes of `ns` bytes that an array of `count * size` bytes occupies -/
def arrCells (ns count size : Nat) : Nat := cellsOf ns (mul64 count size)

/-- ledger after an array request: the cells of the array, with the node size of the bucket in the resulting state -/
def ledgerArr (st : Coll) (live : List (Nat × Nat)) (count size : Nat) : Out → List (Nat × Nat)
  | .ok a =>
    let ns := ((st.lists[st.listIndex size]?).map AnyList.nodeSize).getD 0
    arrEntries ns a size (arrCells ns count size) ++ live
  | _ => live

def GCollA.step (cfg : Cfg) (e : EnvS) (g : GCollA) (k : Nat) : COpA → GCollA × Nat
  | .node op =>
    let r := (GColl.mk g.c g.live).step cfg e k op
    ({ c := r.1.c, live := r.1.live, arrs := g.arrs }, r.2)
  | .allocArray count size =>
    let r := g.c.allocateArray cfg count size [e k, e (k + 1)]
    ({ c := r.st, live := ledgerArr r.st g.live count size r.out,
       arrs := match r.out with | .ok a => (a, count, size) :: g.arrs | _ => g.arrs }, k + usedAnswers r.ev)
  | .tryAllocArray count size =>
    let r := g.c.tryAllocateArray cfg count size
    ({ c := r.st, live := ledgerArr r.st g.live count size r.out,
       arrs := match r.out with | .ok a => (a, count, size) :: g.arrs | _ => g.arrs }, k)
  | .reserve size capacity =>
    let r := g.c.reserveOp cfg size capacity [e k]
    ({ g with c := r.st }, k + usedAnswers r.ev)
  | .deallocArray j =>
    match g.arrs[j]? with
    | none => (g, k)
    | some (a, count, size) =>
      match g.c.lists[g.c.listIndex size]? with
      | none => (g, k)
      | some l =>
        let E := arrEntries l.nodeSize a size (arrCells l.nodeSize count size)
        if E.all (fun x => g.live.contains x) then
          let r := g.c.deallocateArray cfg a count size
          ({ c := r.st, live := removeEntries g.live E, arrs := g.arrs.eraseIdx j }, k)
        else (g, k)      -- the caller no longer holds all of it (it released a cell as a node): not a valid release

def GCollA.run (cfg : Cfg) (e : EnvS) (g : GCollA) (k : Nat) : List COpA → GCollA × Nat
  | [] => (g, k)
  | op :: ops => let r := g.step cfg e k op; GCollA.run cfg e r.1 r.2 ops

end MemVerif.Model
