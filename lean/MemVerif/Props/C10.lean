import MemVerif.Model.Container
import MemVerif.Lemmas.Util
/-!
# C10 — STL containers on RawAllocators return every node to the allocator it came from

Node sizes: a constant suffices as soon as it covers the node header rounded up to the value's alignment
(`stdNodeRequest_le`), and every row of the generated table does. Origin of nodes: every operation of the container
protocol overwrites one or two slots with containers that own their nodes, for any handle type whose `==` is faithful;
that of the type-erased handle is not (D23).
-/
namespace MemVerif.Props.C10
open MemVerif.Model MemVerif.Gen

theorem roundUpTo_mono {x y : Nat} (a : Nat) (h : x ≤ y) : roundUpTo x a ≤ roundUpTo y a :=
  Nat.mul_le_mul_right _ (Nat.div_le_div_right (Nat.sub_le_sub_right (Nat.add_le_add_right h a) 1))

/-- `x` is itself a multiple of `a` that is `≥ x`, and the round-up is the least one -/
theorem roundUpTo_dvd {x a : Nat} (ha : 0 < a) (h : a ∣ x) : roundUpTo x a = x :=
  Nat.le_antisymm ((Nat.roundUp_spec x ha).2.2.2 x (Nat.mod_eq_zero_of_dvd h) (Nat.le_refl x)) (Nat.roundUp_spec x ha).2.1

/-- What makes a constant `b` sufficient: it covers the header rounded up to the value's alignment. Up to alignment 8 both
sides are then rounded to 8; above, header and value are multiples of `a`, so rounding to `a` changes nothing. -/
theorem stdNodeRequest_le (c : String) (s a b : Nat) (hb : roundUpTo (stdHeader c) a ≤ b) (hdvd : a ∣ s) :
    stdNodeRequest c s a ≤ roundUpTo (b + s) 8 := by
  unfold stdNodeRequest
  rcases Nat.lt_or_ge 8 a with ha | ha
  · have hmul : a ∣ roundUpTo (stdHeader c) a + s := Nat.dvd_add (Nat.dvd_mul_left ..) hdvd
    rw [Nat.max_eq_left (Nat.le_of_lt ha), roundUpTo_dvd (Nat.lt_trans (by decide) ha) hmul]
    exact Nat.le_trans (Nat.add_le_add_right hb s) (Nat.roundUp_spec _ (by decide)).2.1
  · rw [Nat.max_eq_right ha]
    exact roundUpTo_mono 8 (Nat.add_le_add_right hb s)

/-- every row of the table regenerated from `cmake/get_node_size.cpp` for this compiler satisfies the condition (complete
finite table) -/
theorem C10_table_ok : ∀ r ∈ nodeSizeTable, roundUpTo (stdHeader r.1) r.2.1 ≤ r.2.2 := by decide +kernel

/-- **Node size constants suffice** — for every container of the table, every element size `s ≥ 1` and every alignment
`a` of the table with `a ∣ s` (what `sizeof`/`alignof` of a C++ type always satisfy): `X_node_size<T>` is at least what
the container requests per node under the libstdc++ layout model. No bound on `s`. -/
theorem C10_node_size_sufficient (c : String) (s a b : Nat) (hrow : (c, a, b) ∈ nodeSizeTable) (hdvd : a ∣ s) :
    stdNodeRequest c s a ≤ roundUpTo (b + s) 8 :=
  stdNodeRequest_le c s a b (C10_table_ok (c, a, b) hrow) hdvd

/-- instance: `std::list` of a 24-byte, 8-aligned type: request 40, constant 40 -/
example : stdNodeRequest "list" 24 8 = 40 ∧ nodeSizeConst "list" 24 8 = some 40 := by decide +kernel

/-- the library's handles: all three propagation traits are `true_type` (`propagation_traits` default) and
`operator==` of `std_allocator<T, RawAllocator>` compares the addresses of the referenced stateful allocators -/
def libTraits : ATraits := {}

/-- **Equal exactly when interchangeable** (stateful, non type-erased handles): the handles of the model compare equal
iff they reference the same allocator object -/
theorem C10_equal_iff_interchangeable_partial (a b : Nat) : libTraits.eq a b = true ↔ a = b := by
  simp [libTraits]

def Own (c : Cont) : Prop := ∀ n ∈ c.nodes, n = c.alloc

theorem own_nil {a : Nat} : Own ⟨a, []⟩ := fun _ hn => nomatch hn

theorem own_copies {a : Nat} {l : List Nat} : Own ⟨a, l.map fun _ => a⟩ := fun n hn => by
  obtain ⟨_, _, rfl⟩ := List.mem_map.1 hn
  rfl

theorem origin_set {cs : List Cont} {i : Nat} {c : Cont} (hcs : Origin cs) (hc : Own c) : Origin (setC cs i c) := by
  intro x hx
  rcases List.mem_or_eq_of_mem_set hx with h | rfl
  · exact hcs x h
  · exact hc

/-- **Origin invariant**, for any propagation traits, provided handles that compare equal reference the same allocator
(what the standard demands of `operator==`): any operation of the protocol — insertion, erasure, copy and move
construction, copy and move assignment, swap, and node transfer between containers whose handles compare equal — keeps
every node in a container whose handle references the allocator the node came from. -/
theorem C10_origin_step (tr : ATraits) (heq : ∀ a b, tr.eq a b = true → a = b) (cs cs' : List Cont) (op : COp)
    (hI : Origin cs) (h : cstep tr cs op = some cs') : Origin cs' := by
  -- every operation overwrites one or two slots, with containers built from ones that own their nodes
  have own : ∀ {i : Nat} {c : Cont}, cs[i]? = some c → Own c := fun hc => hI _ (List.mem_of_getElem? hc)
  cases op with
  | insert i =>
    obtain ⟨c, hc, rfl⟩ := Option.map_eq_some_iff.1 h
    exact origin_set hI fun n hn => (List.mem_cons.1 hn).elim id (own hc n)
  | erase i =>
    obtain ⟨c, hc, rfl⟩ := Option.map_eq_some_iff.1 h
    exact origin_set hI fun n hn => own hc n (List.mem_of_mem_tail hn)
  | clear i =>
    obtain ⟨c, hc, rfl⟩ := Option.map_eq_some_iff.1 h
    exact origin_set hI own_nil
  | copyCtor i j =>
    obtain ⟨c, hc, rfl⟩ := Option.map_eq_some_iff.1 h
    exact origin_set hI own_copies
  | moveCtor i j =>
    obtain ⟨c, hc, rfl⟩ := Option.map_eq_some_iff.1 h
    exact origin_set (origin_set hI own_nil) (own hc)
  | copyAssign i j =>
    simp only [cstep] at h
    split at h
    · cases h
      exact origin_set hI own_copies
    · cases h
  | moveAssign i j =>
    simp only [cstep] at h
    split at h
    · next ci cj hci hcj =>
      by_cases hp : tr.pocma = true
      · rw [if_pos hp] at h
        cases h
        exact origin_set (origin_set hI (own hcj)) own_nil
      · rw [if_neg hp] at h
        by_cases he : tr.eq ci.alloc cj.alloc = true
        · rw [if_pos he] at h
          cases h
          exact origin_set (origin_set hI (heq _ _ he ▸ own hcj)) own_nil
        · rw [if_neg he] at h
          cases h
          exact origin_set hI own_copies
    · cases h
  | swap i j =>
    simp only [cstep] at h
    split at h
    · next ci cj hci hcj =>
      by_cases hp : tr.pocs = true
      · rw [if_pos hp] at h
        cases h
        exact origin_set (origin_set hI (own hcj)) (own hci)
      · rw [if_neg hp] at h
        obtain ⟨he, rfl⟩ := Option.ite_some_none_eq_some.1 h
        exact origin_set (origin_set hI (heq _ _ he ▸ own hcj)) ((heq _ _ he).symm ▸ own hci)
    · cases h
  | splice i j =>
    simp only [cstep] at h
    split at h
    · next ci cj hci hcj =>
      obtain ⟨hcond, rfl⟩ := Option.ite_some_none_eq_some.1 h
      refine origin_set (origin_set hI fun n hn => ?_) own_nil
      rcases List.mem_append.1 hn with hn | hn
      · exact own hci n hn
      · exact heq _ _ (Bool.and_eq_true_iff.1 hcond).2 ▸ own hcj n hn
    · cases h

theorem origin_run (tr : ATraits) (heq : ∀ a b, tr.eq a b = true → a = b) (ops : List COp) :
    ∀ (cs cs' : List Cont), Origin cs → crun tr cs ops = some cs' → Origin cs' := by
  induction ops with
  | nil => intro cs cs' hI h; cases h; exact hI
  | cons op ops ih =>
    intro cs cs' hI h
    obtain ⟨mid, hmid, hrest⟩ := Option.bind_eq_some_iff.1 h
    exact ih mid cs' (C10_origin_step tr heq cs mid op hI hmid) hrest

/-- **Origin invariant** with the library's handles (their `==` is faithful), for every operation sequence over any number
of containers bound to any allocators -/
theorem C10_origin_invariant (ops : List COp) : ∀ (cs cs' : List Cont), Origin cs → crun libTraits cs ops = some cs' → Origin cs' :=
  origin_run libTraits (fun a b => (C10_equal_iff_interchangeable_partial a b).1) ops

/-- D23 (recorded finding): for the type-erased `any_std_allocator` the comparison is constantly `true`, so the
hypothesis of `C10_origin_step` fails; with that relation a legal node transfer leaves nodes in a container bound to
another allocator (they are then released there) -/
theorem C10_any_equality_counterexample :
    let anyTraits : ATraits := { eq := fun _ _ => true }
    ∃ cs', crun anyTraits [⟨0, []⟩, ⟨1, []⟩] [.insert 0, .insert 0, .splice 1 0] = some cs' ∧ originB cs' = false :=
  ⟨_, rfl, by decide⟩

/-- the same sequence is rejected (precondition of `splice` false) with the library's relation for typed handles -/
example : crun libTraits [⟨0, []⟩, ⟨1, []⟩] [.insert 0, .insert 0, .splice 1 0] = none := by decide +kernel

end MemVerif.Props.C10
