import MemVerif.Lemmas.Arith
import MemVerif.Lemmas.Util
import MemVerif.Model.Buckets
/-!
# C19 — size and alignment arithmetic is correct for every input

All statements are about the definitions in `MemVerif.Gen` (regenerated from the C++ source by the
translator on every run), for **every** 64-bit input; `IsPow a k` says the 64-bit value `a` is `2^k`, `k < 64`.
-/
namespace MemVerif.Props.C19
open MemVerif.Gen MemVerif.Bits MemVerif.Arith MemVerif.Model

/-- `is_valid_alignment` accepts exactly the 64 powers of two. -/
theorem C19_valid_alignment_iff (a : BitVec 64) :
    isValidAlignment a = true ↔ ∃ k, IsPow a k := by
  have e : isValidAlignment a = (a != 0#64 && isPowerOfTwo a) := rfl
  rw [e, Bool.and_eq_true, bne_iff_ne]
  constructor
  · rintro ⟨h0, hp⟩
    obtain ⟨k, hk⟩ := (isPowerOfTwo_iff a h0).1 hp
    -- a power of two below `2^64` has an exponent below 64
    exact ⟨k, (Nat.pow_lt_pow_iff_right (by decide)).1 (hk ▸ a.isLt), hk⟩
  · rintro ⟨k, h⟩
    exact ⟨h.ne_zero, (isPowerOfTwo_iff a h.ne_zero).2 ⟨k, h.toNat⟩⟩

/-- Rounding up (general form, overflow included): the result is the wrapped sum with its low `k` bits cleared. -/
theorem C19_round_up_wrapping (size a : BitVec 64) (k : Nat) (h : IsPow a k) :
    (roundUp size a).toNat =
      (size.toNat + 2 ^ k - 1) % 2 ^ 64 - ((size.toNat + 2 ^ k - 1) % 2 ^ 64) % 2 ^ k := by
  unfold roundUp
  rw [toNat_and_not_mask h, BitVec.sub_eq_add_neg, BitVec.add_assoc, ← BitVec.sub_eq_add_neg, BitVec.toNat_add,
    toNat_sub_one h, Nat.add_sub_assoc (Nat.two_pow_pos k)]

/-- Rounding up gives the least multiple of the alignment that is `≥ size`, whenever that multiple is representable. -/
theorem C19_round_up_least (size a : BitVec 64) (k : Nat) (h : IsPow a k)
    (hno : size.toNat + 2 ^ k - 1 < 2 ^ 64) :
    let r := (roundUp size a).toNat
    r % 2 ^ k = 0 ∧ size.toNat ≤ r ∧ r < size.toNat + 2 ^ k ∧
      ∀ m, m % 2 ^ k = 0 → size.toNat ≤ m → r ≤ m := by
  intro r
  -- clearing the low bits of `size + 2^k - 1` is `(size + 2^k - 1) / 2^k * 2^k`
  have hr : r = (size.toNat + 2 ^ k - 1) / 2 ^ k * 2 ^ k := by
    show (roundUp size a).toNat = _
    rw [C19_round_up_wrapping size a k h, Nat.mod_eq_of_lt hno]
    exact Nat.sub_eq_of_eq_add (by rw [Nat.mul_comm]; exact (Nat.div_add_mod _ _).symm)
  rw [hr]
  exact Nat.roundUp_spec _ (Nat.two_pow_pos k)

/-- `align_offset` is the least non-negative adjustment that aligns the address. -/
theorem C19_align_offset_least (addr a : BitVec 64) (k : Nat) (h : IsPow a k) :
    let off := (alignOffset addr a).toNat
    (addr.toNat + off) % 2 ^ k = 0 ∧ off < 2 ^ k ∧ ∀ d, d < off → (addr.toNat + d) % 2 ^ k ≠ 0 := by
  intro off
  rw [show off = _ from alignOffset_toNat addr h]
  exact Nat.alignUp_least _ (Nat.two_pow_pos k)

/-- `is_aligned` decides divisibility by the alignment. -/
theorem C19_is_aligned_iff (p a : BitVec 64) (k : Nat) (h : IsPow a k) :
    isAligned p a = true ↔ p.toNat % 2 ^ k = 0 := by
  show ((p &&& (a - 1#64)) == 0#64) = true ↔ _
  rw [beq_iff_eq, BitVec.toNat_eq, toNat_and_mask h]
  rfl

/-- `alignment_for size` is the largest power of two dividing `size`, capped at `max_alignment`; `0 ↦ 0`. -/
theorem C19_alignment_for (size : BitVec 64) (j q : Nat) (hs : size.toNat = 2 ^ j * (2 * q + 1)) :
    (alignmentFor size).toNat = min (2 ^ j) C.max_alignment.toNat := by
  unfold alignmentFor
  rw [toNat_ite_min, lowbit_toNat size j q hs]

theorem C19_alignment_for_zero : alignmentFor 0#64 = 0#64 := by decide

/-- the decomposition used by `C19_alignment_for` exists for every non-zero size, and `2^j` is the largest
power of two dividing it -/
theorem C19_alignment_for_decomp (size : BitVec 64) (hs : size ≠ 0#64) :
    ∃ j q, size.toNat = 2 ^ j * (2 * q + 1) ∧ 2 ^ j ∣ size.toNat ∧ ¬ 2 ^ (j + 1) ∣ size.toNat := by
  obtain ⟨j, q, h⟩ := exists_pow_odd _ (Nat.pos_of_ne_zero (toNat_ne_zero hs))
  refine ⟨j, q, h, ⟨2 * q + 1, h⟩, ?_⟩
  rintro ⟨c, hc⟩
  rw [h, Nat.pow_succ, Nat.mul_assoc] at hc
  have := Nat.eq_of_mul_eq_mul_left (Nat.two_pow_pos j) hc
  omega

theorem alignmentFor_toNat (size : BitVec 64) (j q : Nat) (hs : size.toNat = 2 ^ j * (2 * q + 1)) :
    (alignmentFor size).toNat = 2 ^ min j 4 := by
  rw [C19_alignment_for size j q hs, show C.max_alignment.toNat = 2 ^ 4 from maxAlign_eq, min_two_pow]

theorem alignmentFor_dvd (ns : Nat) (h0 : 0 < ns) (hlt : ns < 2 ^ 64) :
    (alignmentFor (BitVec.ofNat 64 ns)).toNat ∣ ns ∧ (alignmentFor (BitVec.ofNat 64 ns)).toNat ∣ 16 := by
  have hn : (BitVec.ofNat 64 ns).toNat = ns := toNat_ofNat_lt hlt
  obtain ⟨j, q, hs, hd, _⟩ := C19_alignment_for_decomp _ (ofNat_ne_zero h0 hlt)
  rw [alignmentFor_toNat _ j q hs]
  rw [hn] at hd
  exact ⟨Nat.dvd_trans (Nat.pow_dvd_pow 2 (Nat.min_le_left j 4)) hd, Nat.pow_dvd_pow 2 (Nat.min_le_right j 4)⟩

theorem log2_lt_64 {x : BitVec 64} (hx : x ≠ 0#64) : Nat.log2 x.toNat < 64 :=
  (Nat.log2_lt (toNat_ne_zero hx)).2 x.isLt

theorem ilog2Base_toNat (x : BitVec 64) (hx : x ≠ 0#64) : (ilog2Base x).toNat = Nat.log2 x.toNat + 1 := by
  have hlt := log2_lt_64 hx
  have h64 : (C.sizeof_unsigned_long_long * 8#64).toNat = 64 := rfl
  -- `clz` of a non-zero word, as the 64-bit value the subtraction sees
  have hclz : (BitVec.setWidth 64 (clz64 x)).toNat = 63 - Nat.log2 x.toNat := by
    rw [clz64, if_neg hx, BitVec.toNat_setWidth, BitVec.toNat_ofNat,
      Nat.mod_eq_of_lt (a := 63 - _) (Nat.lt_of_le_of_lt (Nat.sub_le _ _) (by decide)),
      Nat.mod_eq_of_lt (Nat.lt_of_le_of_lt (Nat.sub_le _ _) (by decide))]
  unfold ilog2Base
  rw [BitVec.toNat_sub_of_le (BitVec.le_def.2 (by rw [hclz, h64]; exact Nat.le_trans (Nat.sub_le _ _) (by decide))),
    hclz, h64]
  omega

theorem ilog2_toNat (x : BitVec 64) (hx : x ≠ 0#64) : (ilog2 x).toNat = Nat.log2 x.toNat := by
  unfold ilog2
  rw [BitVec.toNat_sub_of_le (by show 1 ≤ (ilog2Base x).toNat; rw [ilog2Base_toNat x hx]; exact Nat.succ_pos _),
    ilog2Base_toNat x hx]
  rfl

/-- `ilog2` is the floor of the binary logarithm. -/
theorem C19_ilog2_floor (x : BitVec 64) (hx : x ≠ 0#64) :
    2 ^ (ilog2 x).toNat ≤ x.toNat ∧ x.toNat < 2 ^ ((ilog2 x).toNat + 1) := by
  rw [ilog2_toNat x hx]
  exact ⟨Nat.log2_self_le (toNat_ne_zero hx), Nat.lt_log2_self⟩

theorem ilog2Ceil_toNat (x : BitVec 64) (hx : x ≠ 0#64) :
    (ilog2Ceil x).toNat = if isPowerOfTwo x = true then Nat.log2 x.toNat else Nat.log2 x.toNat + 1 := by
  unfold ilog2Ceil
  split
  · exact ilog2_toNat x hx
  · rw [BitVec.sub_zero, ilog2Base_toNat x hx]

/-- `ilog2_ceil` is the ceiling of the binary logarithm. -/
theorem C19_ilog2_ceil (x : BitVec 64) (hx : x ≠ 0#64) :
    x.toNat ≤ 2 ^ (ilog2Ceil x).toNat ∧ ((ilog2Ceil x).toNat = 0 ∨ 2 ^ ((ilog2Ceil x).toNat - 1) < x.toNat) := by
  have hne := toNat_ne_zero hx
  rw [ilog2Ceil_toNat x hx]
  split
  · rename_i hp
    -- `x = 2^k`, and `⌊log2 (2^k)⌋ = k`
    obtain ⟨k, hk⟩ := (isPowerOfTwo_iff x hx).1 hp
    rw [hk, Nat.log2_two_pow]
    refine ⟨Nat.le_refl _, ?_⟩
    rcases Nat.eq_zero_or_pos k with h | h
    · exact Or.inl h
    · exact Or.inr (Nat.pow_lt_pow_right (by decide) (Nat.sub_lt h Nat.one_pos))
  · rename_i hp
    -- not a power of two: `2^⌊log2 x⌋ < x`
    refine ⟨Nat.le_of_lt Nat.lt_log2_self, Or.inr ?_⟩
    exact Nat.lt_of_le_of_ne (Nat.log2_self_le hne) fun hc => hp ((isPowerOfTwo_iff x hx).2 ⟨_, hc.symm⟩)

/-- below `2^63` the ceiling is a shift count that `1 << i` may take -/
theorem ilog2Ceil_lt_64 (x : BitVec 64) (hx : x ≠ 0#64) (h63 : x.toNat ≤ 2 ^ 63) : (ilog2Ceil x).toNat < 64 := by
  rcases (C19_ilog2_ceil x hx).2 with h | h
  · omega
  · have := (Nat.pow_lt_pow_iff_right (by decide)).1 (Nat.lt_of_lt_of_le h h63)
    omega

theorem ilog2Ceil_pow (x : BitVec 64) (m : Nat) (hm : IsPow x m) : (ilog2Ceil x).toNat = m := by
  rw [ilog2Ceil_toNat x hm.ne_zero, if_pos ((isPowerOfTwo_iff x hm.ne_zero).2 ⟨m, hm.toNat⟩), hm.toNat, Nat.log2_two_pow]

theorem listNodeSize_toNat (minElem ns : BitVec 64) : (listNodeSize minElem ns).toNat = max ns.toNat minElem.toNat :=
  toNat_ite_gt ns minElem

theorem bucketIndex_toNat (p : Policy) (minElem s : BitVec 64) :
    (bucketIndex p minElem s).toNat = max (p.indexFromSize s).toNat (p.indexFromSize minElem).toNat :=
  toNat_ite_lt (p.indexFromSize s) (p.indexFromSize minElem)

theorem bucketNodeSize_identity_toNat (minElem s : BitVec 64) :
    (bucketNodeSize .identity minElem s).toNat = max s.toNat minElem.toNat := by
  unfold bucketNodeSize
  rw [listNodeSize_toNat]
  show max (bucketIndex .identity minElem s).toNat _ = _
  rw [bucketIndex_toNat]
  show max (max s.toNat minElem.toNat) minElem.toNat = _
  rw [Nat.max_assoc, Nat.max_self]

/-- identity buckets: the chosen list's nodes are at least as large as the request. -/
theorem C19_bucket_fits_identity (minElem s : BitVec 64) :
    s.toNat ≤ (bucketNodeSize .identity minElem s).toNat := by
  rw [bucketNodeSize_identity_toNat]; exact Nat.le_max_left _ _

/-- identity buckets are exact above the minimum element size. -/
theorem C19_bucket_exact_identity (minElem s : BitVec 64) (h : minElem.toNat ≤ s.toNat) :
    bucketNodeSize .identity minElem s = s :=
  BitVec.eq_of_toNat_eq (by rw [bucketNodeSize_identity_toNat]; exact Nat.max_eq_left h)

theorem shift_one_toNat (i : BitVec 64) (hi : i.toNat < 64) : (1#64 <<< i).toNat = 2 ^ i.toNat :=
  (isPow_shift i.toNat hi).toNat

theorem bucketNodeSize_log2_toNat (minElem s : BitVec 64)
    (hs : (ilog2Ceil s).toNat < 64) (hm : (ilog2Ceil minElem).toNat < 64) :
    (bucketNodeSize .log2 minElem s).toNat =
      max (2 ^ max (ilog2Ceil s).toNat (ilog2Ceil minElem).toNat) minElem.toNat := by
  unfold bucketNodeSize
  rw [listNodeSize_toNat]
  show max (1#64 <<< bucketIndex .log2 minElem s).toNat _ = _
  have hi : (bucketIndex .log2 minElem s).toNat = max (ilog2Ceil s).toNat (ilog2Ceil minElem).toNat :=
    bucketIndex_toNat .log2 minElem s
  rw [shift_one_toNat _ (by rw [hi]; exact Nat.max_lt.2 ⟨hs, hm⟩), hi]

/-- log2 buckets: the chosen list's nodes are at least as large as the request (sizes up to `2^63`;
beyond that `1 << 64` is undefined behaviour in the source). -/
theorem C19_bucket_fits_log2 (minElem s : BitVec 64) (hs : s ≠ 0#64) (hm : minElem ≠ 0#64)
    (hs63 : s.toNat ≤ 2 ^ 63) (hm63 : minElem.toNat ≤ 2 ^ 63) :
    s.toNat ≤ (bucketNodeSize .log2 minElem s).toNat := by
  rw [bucketNodeSize_log2_toNat minElem s (ilog2Ceil_lt_64 s hs hs63) (ilog2Ceil_lt_64 minElem hm hm63)]
  exact Nat.le_trans (C19_ilog2_ceil s hs).1
    (Nat.le_trans (Nat.pow_le_pow_right (by decide) (Nat.le_max_left _ _)) (Nat.le_max_left _ _))

/-- log2 buckets waste less than half, **except** that no bucket is smaller than the list's minimum node
size (`_partial`: the statement's "less than twice as large" fails for `s ≤ minElem/2`, finding D16). -/
theorem C19_bucket_tight_log2_partial (minElem s : BitVec 64) (m : Nat) (hs : s ≠ 0#64) (hm : IsPow minElem m)
    (hs63 : s.toNat ≤ 2 ^ 63) (hm63 : m ≤ 63) :
    (bucketNodeSize .log2 minElem s).toNat < 2 * s.toNat ∨ bucketNodeSize .log2 minElem s = minElem := by
  have hmidx := ilog2Ceil_pow minElem m hm
  have hN := bucketNodeSize_log2_toNat minElem s (ilog2Ceil_lt_64 s hs hs63) (hmidx ▸ Nat.lt_succ_of_le hm63)
  rw [hmidx] at hN
  rcases Nat.le_total (ilog2Ceil s).toNat m with hle | hle
  · -- the clamp: the bucket of `minElem` itself
    right
    apply BitVec.eq_of_toNat_eq
    rw [hN, Nat.max_eq_right hle, ← hm.toNat, Nat.max_self]
  · -- `2^c` with `2^(c-1) < s`
    left
    have hge : minElem.toNat ≤ 2 ^ (ilog2Ceil s).toNat := by
      rw [hm.toNat]; exact Nat.pow_le_pow_right (by decide) hle
    rw [hN, Nat.max_eq_left hle, Nat.max_eq_left hge]
    rcases (C19_ilog2_ceil s hs).2 with h | h
    · rw [h]
      exact Nat.lt_of_lt_of_le (show 2 ^ 0 < 2 * 1 by decide) (Nat.mul_le_mul_left 2 (Nat.pos_of_ne_zero (toNat_ne_zero hs)))
    · have h2 : 2 ^ (ilog2Ceil s).toNat ≤ 2 ^ ((ilog2Ceil s).toNat - 1 + 1) :=
        Nat.pow_le_pow_right (by decide) (Nat.le_add_of_sub_le (Nat.le_refl _))
      rw [Nat.pow_succ'] at h2
      exact Nat.lt_of_le_of_lt h2 (Nat.mul_lt_mul_of_pos_left h (by decide))

/-- the counterexample behind the `_partial`: with 8-byte minimum nodes a 3-byte request gets an 8-byte node. (D16) -/
theorem C19_bucket_tight_log2_counterexample :
    ¬ ((bucketNodeSize .log2 8#64 3#64).toNat < 2 * (3#64 : BitVec 64).toNat) := by decide

end MemVerif.Props.C19
