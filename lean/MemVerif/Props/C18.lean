import MemVerif.Lemmas.SmallList
import MemVerif.Lemmas.Blocks
/-!
# C18 — capacity figures are truthful

"An allocator constructed with the block size returned by `min_block_size` for `n` nodes can serve `n` allocations
without growing."

The formulas are the *generated* translations of the C++ (`MemVerif.Gen`: `freeListMinBlockSize`,
`orderedListMinBlockSize`, `smallListMinBlockSize`, `implementationOffset`), evaluated in `BitVec 64`
(= `size_t`); the consumers are the executable list / arena / stack models. Every theorem quantifies over all
node sizes and counts; the only hypotheses are explicit no-overflow bounds (`min_block_size` itself wraps silently
when the product exceeds `2^64`, see `C18_min_block_wraps`).

`memory_pool::min_block_size` is a one-line sum in the header (`implementation_offset() + …`) that the translator does
not emit as a separate function; it is transcribed here as `poolMinBlockSize` on top of the generated
`implementationOffset`. `stackMinBlockSize` is written the same way, and `C18_stack_min_block_matches_code` equates it
with the generated `stackMinBlockSizeT` / `arenaMinBlockSizeT`.
-/
namespace MemVerif.Props.C18
open MemVerif.Gen MemVerif.Model

/-- **free list**: inserting a block of `min_block_size(ns, n)` bytes into a fresh list succeeds and yields exactly
`n` nodes (the capacity counter and the actual node sequence agree on it). -/
theorem C18_min_block_suffices_free (ns n : BitVec 64) (mem : Nat)
    (hov : max ns.toNat 8 * n.toNat < 2 ^ 64) (hn : 0 < n.toNat) :
    ∃ l', (FreeList.new ns.toNat).insertImpl mem (freeListMinBlockSize ns n).toNat = some l' ∧
      l'.cap = n.toNat ∧ l'.nodes.length = n.toNat ∧
      l'.nodes = blockNodes mem (max ns.toNat 8) n.toNat := by
  have hd : (freeListMinBlockSize ns n).toNat / (FreeList.new ns.toNat).ns = n.toNat := minBlock_div ns n hov
  refine ⟨_, FreeList.insertImpl_eq_some.2 ⟨hd ▸ Nat.ne_of_gt hn, rfl⟩, ?_, ?_, ?_⟩
  · show 0 + _ = _
    rw [hd, Nat.zero_add]
  · show (blockNodes _ _ _ ++ []).length = _
    rw [List.append_nil, blockNodes_length, hd]
  · show blockNodes mem (intrusiveNodeSize ns.toNat) _ ++ [] = _
    rw [List.append_nil, hd, intrusiveNodeSize_eq]

/-- **ordered list**, node count: `insert_impl` cuts `size / node_size` nodes, which is exactly `n`. -/
theorem C18_min_block_suffices_ordered (ns n : BitVec 64) (B E : Nat)
    (hov : max ns.toNat 8 * n.toNat < 2 ^ 64) :
    let l := OrdList.new ns.toNat B E
    (orderedListMinBlockSize ns n).toNat / l.ns = n.toNat := by
  intro l
  exact minBlock_div ns n hov

/-- the release cursor of a fresh list is the end proxy, which has a position (which one does not matter below) -/
theorem posOf_new (nodeSize B E : Nat) : ∃ d, (OrdList.new nodeSize B E).posOf E = some d := by
  unfold OrdList.posOf
  split
  · exact ⟨_, rfl⟩
  · exact ⟨_, if_pos rfl⟩

theorem findPos_new (nodeSize B E : Nat) (dbl : Bool) (m : Nat) (hm : m < E ∨ B < m) :
    (OrdList.new nodeSize B E).findPos dbl m = .pos 0 1 := by
  obtain ⟨d, hd⟩ := posOf_new nodeSize B E
  have hB : (OrdList.new nodeSize B E).posOf B = some 0 := if_pos rfl
  unfold OrdList.findPos
  simp only [show (OrdList.new nodeSize B E).ld = E from rfl, show (OrdList.new nodeSize B E).ldp = B from rfl, hd, hB]
  simp only [OrdList.new, OrdList.addrA, List.size_toArray, List.length_nil, Nat.add_one_ne_zero, ↓reduceIte]
  by_cases h1 : E > m
  · rw [if_pos h1]
  · rw [if_neg h1, if_pos (hm.resolve_left h1)]

theorem intervalAssertFails_new (nodeSize B E : Nat) (m : Nat) (hm : m < E ∨ B < m) :
    (OrdList.new nodeSize B E).intervalAssertFails m = false := by
  obtain ⟨d, hd⟩ := posOf_new nodeSize B E
  unfold OrdList.intervalAssertFails
  simp only [show (OrdList.new nodeSize B E).ld = E from rfl, hd]
  simp only [OrdList.new, OrdList.addr, List.length_nil, Nat.add_one_ne_zero, ↓reduceIte]
  by_cases h1 : E > m
  · rw [if_pos h1]
  · rw [if_neg h1, if_pos (hm.resolve_left h1)]

/-- **ordered list**, full statement: the insert into a fresh list succeeds (in every configuration) and yields
exactly `n` nodes. `mem < E ∨ B < mem`: the block is not squeezed between the two proxy words of the list object
(always true: the proxies are adjacent members of the list object). -/
theorem C18_min_block_suffices_ordered_insert (cfg : Cfg) (ns n : BitVec 64) (B E mem : Nat)
    (hov : max ns.toNat 8 * n.toNat < 2 ^ 64) (hn : 0 < n.toNat) (hm : mem < E ∨ B < mem) :
    ∃ l', OrdList.insert cfg (OrdList.new ns.toNat B E) mem (orderedListMinBlockSize ns n).toNat = .ok l' ∧
      l'.cap = n.toNat ∧ l'.nodes.length = n.toNat ∧ l'.nodes = blockNodes mem (max ns.toNat 8) n.toNat := by
  have hd := minBlock_div ns n hov
  have hf := findPos_new ns.toNat B E cfg.dblDealloc mem hm
  have hd' : (orderedListMinBlockSize ns n).toNat / (OrdList.new ns.toNat B E).ns = n.toNat := hd
  have hn0 : n.toNat ≠ 0 := Nat.ne_of_gt hn
  have hA := intervalAssertFails_new ns.toNat B E mem hm
  simp only [OrdList.insert, OrdList.insertImpl, hf, hd', hn0, hA, Bool.and_false, Bool.false_eq_true, ↓reduceIte, Nat.zero_add,
    ne_eq, not_true_eq_false]
  refine ⟨_, rfl, ?_, ?_, ?_⟩
  · simp [OrdList.new]
  · simp [OrdList.spliceAt, OrdList.new, blockNodes_length]
  · simp [OrdList.spliceAt, OrdList.new, intrusiveNodeSize_eq]

/-- the no-overflow hypothesis is necessary: `min_block_size(2^32, 2^32)` wraps to 0 and the insert is undefined
behaviour (`no_nodes == 0`) -/
theorem C18_min_block_wraps :
    freeListMinBlockSize (BitVec.ofNat 64 (2 ^ 32)) (BitVec.ofNat 64 (2 ^ 32)) = 0#64 ∧
    (FreeList.new (2 ^ 32)).insertImpl 4096 (freeListMinBlockSize (BitVec.ofNat 64 (2 ^ 32)) (BitVec.ofNat 64 (2 ^ 32))).toNat
      = none := by
  constructor <;> decide

example : ∃ l', (FreeList.new 4).insertImpl 4096 (freeListMinBlockSize 4#64 10#64).toNat = some l' ∧
    l'.cap = 10 ∧ l'.nodes.length = 10 ∧ l'.nodes = blockNodes 4096 8 10 :=
  C18_min_block_suffices_free 4#64 10#64 4096 (by decide) (by decide)

example : ∃ l', OrdList.insert {} (OrdList.new 24 100 108) 4096 (orderedListMinBlockSize 24#64 7#64).toNat = .ok l' ∧
    l'.cap = 7 ∧ l'.nodes.length = 7 ∧ l'.nodes = blockNodes 4096 24 7 :=
  C18_min_block_suffices_ordered_insert {} 24#64 7#64 100 108 4096 (by decide) (by decide) (by decide)

/-- `padded_chunk_size(ns)` is exactly the distance between two chunk headers laid out by `insert`
(`total_chunk_size + align_offset(total_chunk_size, alignof(chunk))`). -/
theorem C18_padded_chunk_size_is_stride (ns : BitVec 64) (h : 32 + 255 * ns.toNat + 7 < 2 ^ 64) :
    (smallPaddedChunkSize ns).toNat =
      (chunkOff + ns.toNat * chunkMax) + alignOff (chunkOff + ns.toNat * chunkMax) C.alignof_chunk.toNat :=
  smallPaddedChunkSize_eq_stride ns h

/-- **small list, tightest form**: whenever neither `padded_chunk_size(ns)` nor the product
`chunk_count(n) * padded_chunk_size(ns)` overflows, a block of `min_block_size(ns, n)` bytes is cut into exactly
`chunk_count(n)` full chunks, which hold `255 * chunk_count(n) ≥ n` nodes (and fewer than `n + 255`: no more than
one chunk is wasted). For `ns ≥ 1` that count is the real total capacity of the chunks created. -/
theorem C18_min_block_suffices_small_tight (ns n : BitVec 64) (mem : Nat)
    (h1 : 32 + 255 * ns.toNat + 7 < 2 ^ 64)
    (h2 : (smallChunkCount n).toNat * (smallPaddedChunkSize ns).toNat < 2 ^ 64) :
    let r := smallInsertChunks ns.toNat mem (smallListMinBlockSize ns n).toNat
    n.toNat ≤ r.2 ∧ r.2 < n.toNat + 255 ∧ r.2 = 255 * (smallChunkCount n).toNat ∧
    r.1.length = (smallChunkCount n).toNat ∧
    (1 ≤ ns.toNat → (r.1.map Chunk.capacity).sum = r.2 ∧ ∀ c ∈ r.1, c.noNodes = 255 ∧ c.free = List.range 255) := by
  intro r
  rw [smallPaddedChunkSize_eq_stride ns h1] at h2
  have hsz := smallListMinBlockSize_toNat ns n h1 h2
  have hr : r = ((List.range (smallChunkCount n).toNat).map fun i =>
      Chunk.make (mem + i * smallStride ns.toNat) (chunkOff + ns.toNat * chunkMax) ns.toNat,
      (smallChunkCount n).toNat * chunkMax) := by
    show smallInsertChunks ns.toNat mem (smallListMinBlockSize ns n).toNat = _
    rw [hsz, smallInsertChunks_mul]
  have hs := smallChunkCount_spec n
  have hr2 : r.2 = 255 * (smallChunkCount n).toNat := by
    rw [hr]
    exact Nat.mul_comm _ 255
  refine ⟨hr2 ▸ hs.1, hr2 ▸ hs.2, hr2, by rw [hr, List.length_map, List.length_range], ?_⟩
  intro hns
  refine ⟨smallInsertChunks_sum _ _ _ hns, ?_⟩
  intro c hc
  rw [hr] at hc
  simp only [List.mem_map, List.mem_range] at hc
  obtain ⟨i, _, rfl⟩ := hc
  have := Chunk.make_full (mem + i * smallStride ns.toNat) ns.toNat hns
  exact ⟨this.1, this.2.2⟩

/-- **small list**: with the explicit bound `ns ≤ 2^32`, `n ≤ 2^24` (which excludes every overflow) a block of
`min_block_size(ns, n)` bytes gives at least `n` nodes. -/
theorem C18_min_block_suffices_small (ns n : BitVec 64) (mem : Nat)
    (hns : ns.toNat ≤ 2 ^ 32) (hn : n.toNat ≤ 2 ^ 24) :
    n.toNat ≤ (smallInsertChunks ns.toNat mem (smallListMinBlockSize ns n).toNat).2 := by
  obtain ⟨h1, h2⟩ := small_noOverflow ns n hns hn
  rw [← smallPaddedChunkSize_eq_stride ns h1] at h2
  exact (C18_min_block_suffices_small_tight ns n mem h1 (Nat.lt_trans h2 (by decide))).1

/-- the list-level consequence: `insert` succeeds and the capacity counter is at least `n`, and it is truthful
(equal to the sum of the chunk capacities). -/
theorem C18_min_block_suffices_small_insert (ns n : BitVec 64) (P mem : Nat)
    (hns1 : 1 ≤ ns.toNat) (hn1 : 1 ≤ n.toNat) (hns : ns.toNat ≤ 2 ^ 32) (hn : n.toNat ≤ 2 ^ 24) :
    ∃ l', (SmallList.new ns.toNat P).insert mem (smallListMinBlockSize ns n).toNat = some l' ∧
      n.toNat ≤ l'.cap ∧ l'.cap = (l'.chunks.map Chunk.capacity).sum := by
  obtain ⟨h1, h2⟩ := small_noOverflow ns n hns hn
  rw [← smallPaddedChunkSize_eq_stride ns h1] at h2
  obtain ⟨ha, _, _, hlen, _⟩ := C18_min_block_suffices_small_tight ns n mem h1 (Nat.lt_trans h2 (by decide))
  -- at least one chunk is built, so `insert` succeeds; the counter is then exact for every fresh list
  have hne : (smallInsertChunks ns.toNat mem (smallListMinBlockSize ns n).toNat).1.isEmpty = false := by
    rw [List.isEmpty_eq_false_iff, ← List.length_pos_iff, hlen]
    omega
  obtain ⟨l', hi⟩ : ∃ l', (SmallList.new ns.toNat P).insert mem (smallListMinBlockSize ns n).toNat = some l' := by
    rw [SmallList.insert_eq, if_neg (by rw [show (SmallList.new ns.toNat P).ns = ns.toNat from rfl, hne]; exact Bool.false_ne_true)]
    exact ⟨_, rfl⟩
  refine ⟨l', hi, ?_, ((C04Lists.SmallInvS.new ns.toNat P).insert hns1 hi).1⟩
  rw [SmallList.insert_shape hi]
  show n.toNat ≤ 0 + _
  rw [Nat.zero_add]
  exact ha

example : (1000 : Nat) ≤ (smallInsertChunks 3 4096 (smallListMinBlockSize 3#64 1000#64).toNat).2 :=
  C18_min_block_suffices_small 3#64 1000#64 4096 (by decide) (by decide)

example : ∃ l', (SmallList.new 3 64).insert 4096 (smallListMinBlockSize 3#64 1000#64).toNat = some l' ∧
    1000 ≤ l'.cap ∧ l'.cap = (l'.chunks.map Chunk.capacity).sum :=
  C18_min_block_suffices_small_insert 3#64 1000#64 64 4096 (by decide) (by decide) (by decide) (by decide)

/-- The defect the padding repaired (D13): with the unpadded formula `chunk_count(n) * (chunk_memory_offset + 255 * ns)`
the claim fails. For `ns = 1`, `n = 510` the block has `2 * 287 = 574` bytes, but the second chunk starts at the
8-aligned offset 288 and only 286 bytes remain for it: 255 + 254 = 509 nodes < 510. Holds for every block address `mem`. -/
theorem C18_small_counterexample_without_padding (mem : Nat) :
    (smallInsertChunks 1 mem (2 * (32 + 255))).2 = 509 ∧ 509 < 510 ∧
    (smallChunkCount 510#64).toNat * (32 + 255 * 1) = 2 * (32 + 255) := by
  refine ⟨?_, by decide, by decide⟩
  rw [smallInsertChunks_eq]
  have hs : smallStride 1 = 288 := by decide
  rw [hs, if_pos (by decide)]
  show 2 * (32 + 255) / 288 * chunkMax + ((2 * (32 + 255) % 288 - chunkOff) / 1 % 256) = 509
  decide

/-- the repaired formula on the same instance: 576 bytes, 510 nodes -/
theorem C18_small_repaired_instance (mem : Nat) :
    (smallListMinBlockSize 1#64 510#64).toNat = 576 ∧ (smallInsertChunks 1 mem 576).2 = 510 := by
  refine ⟨by decide, ?_⟩
  rw [smallInsertChunks_eq]
  have hs : smallStride 1 = 288 := by decide
  rw [hs, if_neg (by decide)]
  show 576 / 288 * chunkMax = 510
  decide

/-- `memory_pool::min_block_size(ns, n)` = `memory_block_stack::implementation_offset() + list min_block_size` -/
def poolMinBlockSize (listMin : BitVec 64) : BitVec 64 := implementationOffset + listMin

/-- the arena hands `block_size - implementation_offset` usable bytes to the list -/
theorem C18_pool_min_block (base s : Nat) : (Blk.usable ⟨base, implOff + s⟩).size = s :=
  Blk.usable_size base s

theorem poolMinBlockSize_toNat (m : BitVec 64) (h : 16 + m.toNat < 2 ^ 64) :
    (poolMinBlockSize m).toNat = implOff + m.toNat := by
  unfold poolMinBlockSize
  rw [BitVec.toNat_add, ← implOff, implOff_eq, Nat.mod_eq_of_lt h]

/-- the constructor of a pool on a fixed block of `min_block_size` bytes at `base`: the list is handed exactly the
`listMin` bytes behind the block header, so whatever `insert` makes of them is the pool's list -/
theorem Pool.create_minBlock (cfg : Cfg) (listMin : BitVec 64) (base : Nat) (list l' : AnyList) (arrays : Bool)
    (h : 16 + listMin.toNat < 2 ^ 64) (hi : list.insert cfg (base + implOff) listMin.toNat = .ok l') :
    (Pool.create cfg (.fixed (poolMinBlockSize listMin).toNat) list arrays [some base]).out = .done ∧
    (Pool.create cfg (.fixed (poolMinBlockSize listMin).toNat) list arrays [some base]).st.list = l' := by
  have hbs : implOff + listMin.toNat ≠ 0 := by rw [implOff_eq]; omega
  simp only [poolMinBlockSize_toNat listMin h, Pool.create, Pool.allocateBlock, Arena.allocateBlock, Src.allocateBlock,
    hbs, ne_eq, not_false_eq_true, ↓reduceIte, Blk.usable, Nat.add_sub_cancel_left, hi, and_self]

/-- **pool over the free list**: a pool created on a block of `min_block_size(ns, n)` bytes has exactly `n` nodes
after its constructor's insert. -/
theorem C18_pool_min_block_free (cfg : Cfg) (ns n : BitVec 64) (base : Nat) (arrays : Bool)
    (hov : 16 + max ns.toNat 8 * n.toNat < 2 ^ 64) (hn : 0 < n.toNat) :
    let r := Pool.create cfg (.fixed (poolMinBlockSize (freeListMinBlockSize ns n)).toNat)
      (.free (FreeList.new ns.toNat)) arrays [some base]
    r.out = .done ∧ r.st.list.capacity = n.toNat := by
  have hov' : max ns.toNat 8 * n.toNat < 2 ^ 64 := Nat.lt_of_le_of_lt (Nat.le_add_left _ _) hov
  obtain ⟨l', hi, hc, _⟩ := C18_min_block_suffices_free ns n (base + implOff) hov' hn
  have hr := Pool.create_minBlock cfg (freeListMinBlockSize ns n) base (.free (FreeList.new ns.toNat)) (.free l') arrays
    (by rw [freeListMinBlockSize_toNat ns n hov']; exact hov) (by simp only [AnyList.insert, FreeList.insert, hi])
  exact ⟨hr.1, by rw [hr.2]; exact hc⟩

/-- **pool over the ordered list** (`B`, `E`: addresses of the two proxy words inside the pool object) -/
theorem C18_pool_min_block_ordered (cfg : Cfg) (ns n : BitVec 64) (B E base : Nat) (arrays : Bool)
    (hov : 16 + max ns.toNat 8 * n.toNat < 2 ^ 64) (hn : 0 < n.toNat)
    (hm : base + implOff < E ∨ B < base + implOff) :
    let r := Pool.create cfg (.fixed (poolMinBlockSize (orderedListMinBlockSize ns n)).toNat)
      (.ord (OrdList.new ns.toNat B E)) arrays [some base]
    r.out = .done ∧ r.st.list.capacity = n.toNat := by
  have hov' : max ns.toNat 8 * n.toNat < 2 ^ 64 := Nat.lt_of_le_of_lt (Nat.le_add_left _ _) hov
  obtain ⟨l', hi, hc, _⟩ := C18_min_block_suffices_ordered_insert cfg ns n B E (base + implOff) hov' hn hm
  have hr := Pool.create_minBlock cfg (orderedListMinBlockSize ns n) base (.ord (OrdList.new ns.toNat B E)) (.ord l') arrays
    (by rw [orderedListMinBlockSize_eq, freeListMinBlockSize_toNat ns n hov']; exact hov)
    (by simp only [AnyList.insert, hi])
  exact ⟨hr.1, by rw [hr.2]; exact hc⟩

/-- **pool over the small list**: at least `n` nodes -/
theorem C18_pool_min_block_small (cfg : Cfg) (ns n : BitVec 64) (P base : Nat) (arrays : Bool)
    (hns1 : 1 ≤ ns.toNat) (hn1 : 1 ≤ n.toNat) (hns : ns.toNat ≤ 2 ^ 32) (hn : n.toNat ≤ 2 ^ 24) :
    let r := Pool.create cfg (.fixed (poolMinBlockSize (smallListMinBlockSize ns n)).toNat)
      (.small (SmallList.new ns.toNat P)) arrays [some base]
    r.out = .done ∧ n.toNat ≤ r.st.list.capacity := by
  obtain ⟨h1, h2⟩ := small_noOverflow ns n hns hn
  obtain ⟨l', hi, hc, _⟩ := C18_min_block_suffices_small_insert ns n P (base + implOff) hns1 hn1 hns hn
  have hr := Pool.create_minBlock cfg (smallListMinBlockSize ns n) base (.small (SmallList.new ns.toNat P)) (.small l') arrays
    (by rw [smallListMinBlockSize_toNat ns n h1 (by omega)]; omega) (by simp only [AnyList.insert, hi])
  exact ⟨hr.1, by rw [hr.2]; exact hc⟩

example :
    let r := Pool.create {} (.fixed (poolMinBlockSize (freeListMinBlockSize 24#64 100#64)).toNat)
      (.free (FreeList.new 24)) true [some 4096]
    r.out = .done ∧ r.st.list.capacity = 100 :=
  C18_pool_min_block_free {} 24#64 100#64 4096 true (by decide) (by decide)

example :
    let r := Pool.create {} (.fixed (poolMinBlockSize (orderedListMinBlockSize 24#64 100#64)).toNat)
      (.ord (OrdList.new 24 64 72)) true [some 4096]
    r.out = .done ∧ r.st.list.capacity = 100 :=
  C18_pool_min_block_ordered {} 24#64 100#64 64 72 4096 true (by decide) (by decide) (by decide)

example :
    let r := Pool.create {} (.fixed (poolMinBlockSize (smallListMinBlockSize 3#64 1000#64)).toNat)
      (.small (SmallList.new 3 64)) false [some 4096]
    r.out = .done ∧ 1000 ≤ r.st.list.capacity :=
  C18_pool_min_block_small {} 3#64 1000#64 64 4096 false (by decide) (by decide) (by decide) (by decide)

/-- `memory_stack::min_block_size(bytes)` = `implementation_offset() + bytes` -/
def stackMinBlockSize (bytes : BitVec 64) : BitVec 64 := implementationOffset + bytes

/-- the formula above is what the source says: `memory_stack::min_block_size` and `memory_arena::min_block_size` as
regenerated from the headers by the translator -/
theorem C18_stack_min_block_matches_code (bytes : BitVec 64) :
    stackMinBlockSize bytes = stackMinBlockSizeT bytes ∧ stackMinBlockSize bytes = arenaMinBlockSizeT bytes := ⟨rfl, rfl⟩

/-- a stack created over a source that hands out the block `⟨base, bs⟩`: the top is the start of the usable part, and
the whole usable part is left -/
theorem MemStack.create_of_block (src : Src) (base bs : Nat) {src' : Src} {ev : List UpEv} {env' : List (Option Nat)}
    (h : src.allocateBlock [some base] = .ok src' ⟨base, bs⟩ ev env') (hbs : implOff ≤ bs) (hlt : base + bs < 2 ^ 64) :
    ∃ s, (MemStack.create src [some base]).1 = some s ∧ s.capacityLeft = some (bs - implOff) ∧
      s.cur = base + implOff := by
  refine ⟨{ arena := { src := src', isCached := true, used := [⟨base, bs⟩] }, cur := base + implOff }, ?_, ?_, rfl⟩
  · simp only [MemStack.create, Arena.allocateBlock, h, Blk.usable]
  · simp only [MemStack.capacityLeft, MemStack.blockEnd, Arena.currentBlock, List.head?_cons, Option.map_some, Blk.usable]
    rw [sub64_eq (Nat.le_add_right _ _) (by omega), Nat.add_sub_cancel_left]

/-- **stack**: a `memory_stack` created on a block of `min_block_size(bytes)` has exactly `bytes` bytes of
capacity left (block below `2^62`; fixed or growing block source). -/
theorem C18_stack_min_block_exact (bytes : BitVec 64) (base num den : Nat) (src : Src)
    (hsrc : src = .fixed (stackMinBlockSize bytes).toNat ∨ src = .growing num den (stackMinBlockSize bytes).toNat)
    (hb : base + 16 + bytes.toNat < 2 ^ 62) :
    ∃ s, (MemStack.create src [some base]).1 = some s ∧ s.capacityLeft = some bytes.toNat ∧
      s.cur = base + implOff := by
  have hlt : base + (implOff + bytes.toNat) < 2 ^ 64 := by rw [implOff_eq]; omega
  have hp : (stackMinBlockSize bytes).toNat = implOff + bytes.toNat :=
    poolMinBlockSize_toNat bytes (Nat.lt_of_le_of_lt (Nat.le_add_left _ _) (implOff_eq ▸ hlt))
  have hne : implOff + bytes.toNat ≠ 0 := by rw [implOff_eq]; omega
  have hcap : implOff + bytes.toNat - implOff = bytes.toNat := Nat.add_sub_cancel_left ..
  rcases hsrc with rfl | rfl
  · have := MemStack.create_of_block (.fixed (implOff + bytes.toNat)) base (implOff + bytes.toNat) (if_pos hne)
      (Nat.le_add_right _ _) hlt
    rwa [hcap, ← hp] at this
  · have := MemStack.create_of_block (.growing num den (implOff + bytes.toNat)) base (implOff + bytes.toNat) rfl
      (Nat.le_add_right _ _) hlt
    rwa [hcap, ← hp] at this

example : ∃ s, (MemStack.create (.fixed (stackMinBlockSize 1000#64).toNat) [some 4096]).1 = some s ∧
    s.capacityLeft = some 1000 ∧ s.cur = 4096 + implOff :=
  C18_stack_min_block_exact 1000#64 4096 0 0 _ (Or.inl rfl) (by decide)

end MemVerif.Props.C18
