import MemVerif.Props.C01Coll
/-!
C02 for `memory_pool_collection` over the intrusive free lists, node operations, all histories: every node handed out
is aligned to `alignment_for(node size of its bucket)`, is at least as long as the requested size (the bucket's node
size is ≥ the request for identity and log2 buckets) and — `Props/C01Coll` — disjoint from everything else.

`…_partial`: arrays on collections are proved in `Props/C02CollArr`; `small_node_pool` buckets stay at the
correspondence level (`checks/c02.py`).
-/
namespace MemVerif.Props.C02Coll
open MemVerif.Model

/-- **a freshly constructed collection over either intrusive list is on the grid** (no cells yet, sane node sizes) -/
theorem C02_coll_create_grid (cfg : Cfg) (src : Src) (kind : String) (hk : kind = "free" ∨ kind = "ord") (pol : Policy)
    (arrays : Bool) (maxNode : Nat) (env : List (Option Nat)) {c : Coll} {out : Out} {ev : List UpEv}
    (h : Coll.create cfg src kind pol arrays maxNode env = (some c, out, ev)) : c.Grid [] := by
  obtain ⟨_, _, arr, n, h3⟩ := Coll.create_shape h
  refine ⟨fun l hl => ?_, fun as has => by cases has⟩
  rw [h3] at hl
  obtain ⟨i, _, rfl⟩ := List.mem_map.mp hl
  obtain ⟨hi, hc, hns, _⟩ := Coll.mkList_spec hk pol arr i
  refine ⟨hi, by rw [hns]; exact intrusiveNodeSize_pos _, ?_, fun x hx => by rw [hc] at hx; cases hx⟩
  rw [hns, intrusiveNodeSize_eq]
  exact Nat.max_lt.mpr ⟨BitVec.isLt _, by decide⟩

/-- **C02 (alignment), collections, node operations.** Along every history every live node — hence every node at the
moment it is handed out — and every free cell is aligned to `alignment_for` of its bucket's node size. -/
theorem C02_coll_aligned_partial (cfg : Cfg) (e : EnvS) (arr arrLen : Nat) (hf : cfg.fence ≤ 2 ^ 32) (g : GColl) (k : Nat)
    (ops : List COpn) (hI : CInv arr arrLen g.c g.live) (hg : g.c.Grid g.live)
    (henv : BlocksOk (g.run cfg e k ops).1.c.arena.used) :
    let g' := (g.run cfg e k ops).1
    (∀ as ∈ g'.live, alignOfNs (g'.c.nsOf as.2) ∣ as.1) ∧
    (∀ l ∈ g'.c.lists, ∀ x ∈ l.cells, alignOfNs l.nodeSize ∣ x) := by
  intro g'
  have h := (GColl.run_kept cfg e hf ops g k hI henv).grid hg
  exact ⟨h.2, fun l hl => (h.1 l hl).cells⟩

/-- `alignment_for(ns)` divides `ns` and `max_alignment`: the grid alignment is the largest power of two dividing the
bucket's node size, capped at `max_alignment` — for log2 buckets (`ns` a power of two ≥ 8) that is `min(ns, 16)` -/
theorem alignOfNs_dvd (ns : Nat) (h0 : 0 < ns) (hlt : ns < 2 ^ 64) : alignOfNs ns ∣ ns ∧ alignOfNs ns ∣ 16 :=
  C19.alignmentFor_dvd ns h0 hlt

/-- **C02 (size), collections, node operations**: with identity buckets the node handed out for `size` is at least
`size` bytes long: the live range of a node (`Props/C01Coll`) covers the requested size -/
theorem C02_coll_size_identity {c : Coll} (hs : C01Coll.Sized c) (hp : c.policy = .identity) (size : Nat) (hsz : size < 2 ^ 64)
    {l : AnyList} (hl : c.lists[c.listIndex size]? = some l) : size ≤ c.nsOf size := by
  rw [C01Coll.nsOf_eq_bucketNodeSize hs size hl, hp]
  have := C19.C19_bucket_fits_identity 8#64 (BitVec.ofNat 64 size)
  rwa [Bits.toNat_ofNat_lt hsz] at this

/-- … and with log2 buckets (sizes from 1 to `2^63`) -/
theorem C02_coll_size_log2 {c : Coll} (hs : C01Coll.Sized c) (hp : c.policy = .log2) (size : Nat) (h0 : 0 < size)
    (hsz : size ≤ 2 ^ 63) {l : AnyList} (hl : c.lists[c.listIndex size]? = some l) : size ≤ c.nsOf size := by
  rw [C01Coll.nsOf_eq_bucketNodeSize hs size hl, hp]
  have hlt : size < 2 ^ 64 := Nat.lt_of_le_of_lt hsz (by decide)
  have hn := Bits.toNat_ofNat_lt hlt
  have := C19.C19_bucket_fits_log2 8#64 (BitVec.ofNat 64 size) (Bits.ofNat_ne_zero h0 hlt) (by decide) (by rw [hn]; exact hsz)
    (by decide)
  rwa [hn] at this

end MemVerif.Props.C02Coll
