import MemVerif.Model.Temp
import MemVerif.Lemmas.Util
/-!
# C14 — temporary allocations end with their scope; each live thread has its own stack

Scope: a `temporary_allocator` unwinds in its destructor to the marker stored at its construction; that this restores top,
blocks and capacity, for any nesting and any allocations in between, is `MemVerif.Props.C06.C06_unwind_restores` (same
`memory_stack` template; the C14 check builds and audits that module as well). Threads: the transition system of
`Model/Temp.lean`, for any number of threads, any scripts and any schedule. A step of the repaired code does one of three things
to the `in_use` flags (`Effect`), and each keeps "the marked stacks are exactly those held by a live thread, each by one, whose
exit detector is armed" (`Inv`; one thread moving: `Inv.set`). Each of the repairs D10, D11, D12 is necessary: without it a
concrete schedule violates the statement.
-/
namespace MemVerif.Props.C14
open MemVerif.Model

/-- the repaired code -/
def good : Fixes := {}

/-- per-thread consistency between the program counter and the thread-local pointer -/
def ThOk (th : TThread) : Prop :=
  match th.pc with
  | .atStore _ i => th.tls = some i
  | .atStoreExit i => th.tls = some i
  | .atLoad _ => th.tls = none
  | .atPush _ => th.tls = none
  | .atCas _ _ => th.tls = none
  | _ => True

def Flag (iu : List Bool) (i : Nat) : Prop := i < iu.length ∧ iu.getD i false = true

/-- the flags `iu'` are the flags `iu` with stack `i` marked (`b = true`) or cleared -/
def Marks (iu iu' : List Bool) (i : Nat) (b : Bool) : Prop :=
  (Flag iu' i ↔ b = true) ∧ ∀ j, j ≠ i → (Flag iu' j ↔ Flag iu j)

theorem marks_set (iu : List Bool) (i : Nat) (b : Bool) (h : b = true → i < iu.length) : Marks iu (iu.set i b) i b := by
  unfold Marks Flag
  rw [List.length_set, List.getD_set]
  refine ⟨⟨fun ⟨h1, h2⟩ => ?_, fun hb => ⟨h hb, ?_⟩⟩, fun j hj => ?_⟩
  · rwa [if_pos ⟨rfl, h1⟩] at h2
  · rwa [if_pos ⟨rfl, h hb⟩]
  · rw [List.getD_set, if_neg fun h => hj h.1]

theorem marks_push (iu : List Bool) : Marks iu (iu ++ [true]) iu.length true := by
  have hget : ∀ j, j < iu.length → (iu ++ [true]).getD j false = iu.getD j false := fun j hj => by
    rw [List.getD_eq_getElem?_getD, List.getD_eq_getElem?_getD, List.getElem?_append_left hj]
  unfold Marks Flag
  rw [List.length_append, List.getD_eq_getElem?_getD, List.getElem?_concat_length]
  refine ⟨⟨fun _ => rfl, fun _ => ⟨Nat.lt_succ_self _, rfl⟩⟩, fun j hj => ⟨fun ⟨h1, h2⟩ => ?_, fun ⟨h1, h2⟩ => ?_⟩⟩
  · have hlt : j < iu.length := Nat.lt_of_le_of_ne (Nat.le_of_lt_succ h1) hj
    exact ⟨hlt, hget j hlt ▸ h2⟩
  · exact ⟨Nat.lt_succ_of_lt h1, (hget j h1).trans h2⟩

/-- a stack whose compare-exchange succeeds exists and was not marked -/
theorem free_spec {iu : List Bool} {i : Nat} (h : iu.getD i true = false) : i < iu.length ∧ ¬ Flag iu i := by
  unfold Flag
  rw [List.getD_eq_getElem?_getD] at h ⊢
  cases hi : iu[i]? with
  | none => rw [hi] at h; cases h
  | some b =>
    rw [hi] at h
    exact ⟨(List.getElem?_eq_some_iff.1 hi).1, fun h' => Bool.noConfusion (h.symm.trans h'.2)⟩

/-- what one thread step of the repaired code does: the thread moves without touching a stack, takes a stack that was not
marked (an existing one or a new one), or lets go of the one it holds -/
inductive Effect (iu : List Bool) (th : TThread) (iu' : List Bool) (th' : TThread) : Prop
  | local_ : iu' = iu → th'.tls = th.tls → th'.armed = th.armed → (th'.live = true ∨ th.tls = none) → Effect iu th iu' th'
  | take (i : Nat) : ¬ Flag iu i → Marks iu iu' i true → th.tls = none → th'.tls = some i → th'.armed = true →
      th'.live = true → Effect iu th iu' th'
  | release (i : Nat) : th.tls = some i → Marks iu iu' i false → (th'.tls = none ∨ th'.live = false) → Effect iu th iu' th'

theorem stepThread_effect (iu : List Bool) (th : TThread) (hok : ThOk th) (harm : ∀ i, th.tls = some i → th.armed = true)
    (hlive : th.live = true) :
    Effect iu th (stepThread good iu th).1 (stepThread good iu th).2 ∧ ThOk (stepThread good iu th).2 := by
  obtain ⟨script, pc, tls, armed⟩ := th
  -- most steps only move the program counter, to a point that is consistent with the thread-local pointer
  have move : ∀ pc' : PC, (pc' != .done) = true ∨ tls = none → ThOk ⟨script, pc', tls, armed⟩ →
      Effect iu ⟨script, pc, tls, armed⟩ iu ⟨script, pc', tls, armed⟩ ∧ ThOk ⟨script, pc', tls, armed⟩ :=
    fun pc' hl hok' => ⟨.local_ rfl rfl rfl hl, hok'⟩
  unfold stepThread
  cases pc with
  | done => exact absurd hlive (by simp [TThread.live])
  | idle k =>
    dsimp only
    cases tls with
    | none => split <;> exact move _ (.inr rfl) (by simp [ThOk])
    | some i =>
      cases harm i rfl
      split <;> exact move _ (.inl rfl) (by simp [ThOk])
  | atLoad k => have ht : tls = none := hok; dsimp only; split <;> exact move _ (.inl rfl) ht
  | atCas k rest =>
    have ht : tls = none := hok
    cases rest with
    | nil => exact move _ (.inl rfl) ht
    | cons i rest =>
      dsimp only
      split
      · next hfree =>
        exact ⟨.take i (free_spec hfree).2 (marks_set iu i true fun _ => (free_spec hfree).1) ht rfl (by simp [good]) rfl, trivial⟩
      · split <;> exact move _ (.inl rfl) ht
  | atPush k => exact ⟨.take iu.length (fun h => Nat.lt_irrefl _ h.1) (marks_push iu) hok rfl rfl rfl, trivial⟩
  | atStore k i => exact ⟨.release i hok (marks_set iu i false nofun) (.inl rfl), trivial⟩
  | atStoreExit i => exact ⟨.release i hok (marks_set iu i false nofun) (.inr rfl), trivial⟩

structure Inv (s : TSys) : Prop where
  ok : ∀ (t : Nat) (th : TThread), s.threads[t]? = some th → ThOk th
  holder : ∀ (t : Nat) (th : TThread) (i : Nat), s.threads[t]? = some th → th.live = true → th.tls = some i →
    i < s.inUse.length ∧ s.inUse.getD i false = true ∧ th.armed = true
  distinct : ∀ (t u : Nat) (th tu : TThread) (i : Nat), t ≠ u → s.threads[t]? = some th → s.threads[u]? = some tu →
    th.live = true → tu.live = true → th.tls = some i → tu.tls ≠ some i
  owned : ∀ (i : Nat), i < s.inUse.length → s.inUse.getD i false = true →
    ∃ (t : Nat) (th : TThread), s.threads[t]? = some th ∧ th.live = true ∧ th.tls = some i

theorem Inv.flag {s : TSys} (hI : Inv s) {t : Nat} {th : TThread} {i : Nat} (hth : s.threads[t]? = some th)
    (hl : th.live = true) (hi : th.tls = some i) : Flag s.inUse i :=
  ⟨(hI.holder t th i hth hl hi).1, (hI.holder t th i hth hl hi).2.1⟩

theorem Inv.set {s : TSys} (hI : Inv s) {t : Nat} {th th' : TThread} (hth : s.threads[t]? = some th) {iu' : List Bool}
    (hok : ThOk th')
    (hnew : ∀ i, th'.live = true → th'.tls = some i → Flag iu' i ∧ th'.armed = true ∧
      ∀ u thu, u ≠ t → s.threads[u]? = some thu → thu.live = true → thu.tls ≠ some i)
    (hkeep : ∀ u thu j, u ≠ t → s.threads[u]? = some thu → thu.live = true → thu.tls = some j → Flag iu' j)
    (hown : ∀ j, Flag iu' j → (th'.live = true ∧ th'.tls = some j) ∨ (Flag s.inUse j ∧ th.tls ≠ some j)) :
    Inv { inUse := iu', threads := s.threads.set t th' } := by
  refine ⟨?_, ?_, ?_, ?_⟩
  · intro u thu hu
    rcases List.getElem?_set_cases hu with ⟨rfl, rfl⟩ | ⟨_, hu⟩
    · exact hok
    · exact hI.ok u thu hu
  · intro u thu i hu hlu htu
    rcases List.getElem?_set_cases hu with ⟨rfl, rfl⟩ | ⟨hut, hu⟩
    · exact ⟨(hnew i hlu htu).1.1, (hnew i hlu htu).1.2, (hnew i hlu htu).2.1⟩
    · exact ⟨(hkeep u thu i hut hu hlu htu).1, (hkeep u thu i hut hu hlu htu).2, (hI.holder u thu i hu hlu htu).2.2⟩
  · intro u v thu thv i huv hu hv hlu hlv htu
    rcases List.getElem?_set_cases hu with ⟨rfl, rfl⟩ | ⟨hut, hu'⟩
    · rcases List.getElem?_set_cases hv with ⟨rfl, _⟩ | ⟨hvt, hv⟩
      · exact absurd rfl huv
      · exact (hnew i hlu htu).2.2 v thv hvt hv hlv
    · rcases List.getElem?_set_cases hv with ⟨rfl, rfl⟩ | ⟨_, hv'⟩
      · exact fun htv => (hnew i hlv htv).2.2 u thu hut hu' hlu htu
      · exact hI.distinct u v thu thv i huv hu' hv' hlu hlv htu
  · intro j hj hju
    rcases hown j ⟨hj, hju⟩ with ⟨hl, ht⟩ | ⟨⟨hj', hju'⟩, hne⟩
    · exact ⟨t, th', List.getElem?_set_self_of_some hth, hl, ht⟩
    · obtain ⟨u, thu, hu, hlu, htu⟩ := hI.owned j hj' hju'
      have hut : u ≠ t := fun h => hne (by rw [h, hth] at hu; cases hu; exact htu)
      exact ⟨u, thu, by rw [List.getElem?_set_ne (Ne.symm hut)]; exact hu, hlu, htu⟩

theorem step_inv (s : TSys) (t : Nat) (hI : Inv s) : Inv (s.step good t) := by
  unfold TSys.step
  cases hth : s.threads[t]? with
  | none => exact hI
  | some th =>
    dsimp only
    by_cases hlive : th.live = true
    · obtain ⟨heff, hok'⟩ := stepThread_effect s.inUse th (hI.ok t th hth)
        (fun i hi => (hI.holder t th i hth hlive hi).2.2) hlive
      generalize stepThread good s.inUse th = r at heff hok'
      obtain ⟨iu', th'⟩ := r
      cases heff with
      | local_ hiu htls harmed hl =>
        subst hiu
        refine hI.set hth hok' (fun i _ hi => ?_) (fun u thu j _ hu hlu htu => hI.flag hu hlu htu) fun j hj => ?_
        · rw [htls] at hi
          exact ⟨hI.flag hth hlive hi, harmed ▸ (hI.holder t th i hth hlive hi).2.2,
            fun u thu hut hu hlu => hI.distinct t u th thu i (Ne.symm hut) hth hu hlive hlu hi⟩
        · by_cases hj' : th.tls = some j
          · exact .inl ⟨hl.resolve_right (by simp [hj']), htls ▸ hj'⟩
          · exact .inr ⟨hj, hj'⟩
      | take i hfree hm htn hts harmed hl =>
        -- what another thread holds is flagged, so it is not `i`
        have other : ∀ u (thu : TThread) j, s.threads[u]? = some thu → thu.live = true → thu.tls = some j → j ≠ i :=
          fun u thu j hu hlu htu h => hfree (h ▸ hI.flag hu hlu htu)
        refine hI.set hth hok' (fun j _ hj => ?_) (fun u thu j _ hu hlu htu => ?_) fun j hj => ?_
        · cases hts.symm.trans hj
          exact ⟨hm.1.2 rfl, harmed, fun u thu _ hu hlu htu => other u thu i hu hlu htu rfl⟩
        · exact (hm.2 j (other u thu j hu hlu htu)).2 (hI.flag hu hlu htu)
        · by_cases hji : j = i
          · exact .inl ⟨hl, hji ▸ hts⟩
          · exact .inr ⟨(hm.2 j hji).1 hj, by rw [htn]; exact nofun⟩
      | release i hts hm hgone =>
        refine hI.set hth hok' (fun j hl hj => ?_) (fun u thu j hut hu hlu htu => ?_) fun j hj => ?_
        · rcases hgone with hg | hg
          · rw [hg] at hj; cases hj
          · rw [hg] at hl; cases hl
        · have hji : j ≠ i := fun h => hI.distinct u t thu th j hut hu hth hlu hlive htu (h ▸ hts)
          exact (hm.2 j hji).2 (hI.flag hu hlu htu)
        · have hji : j ≠ i := fun h => Bool.noConfusion (hm.1.1 (h ▸ hj))
          exact .inr ⟨(hm.2 j hji).1 hj, by rw [hts]; exact fun h => hji (Option.some.inj h).symm⟩
    · -- a finished thread does nothing
      have hdone : th.pc = .done := by simpa [TThread.live] using hlive
      have : stepThread good s.inUse th = (s.inUse, th) := by simp [stepThread, hdone]
      obtain ⟨hlt, rfl⟩ := List.getElem?_eq_some_iff.1 hth
      rw [this, List.set_getElem_self hlt]
      exact hI

theorem run_inv (sched : List Nat) : ∀ (s : TSys), Inv s → Inv (s.run good sched) := by
  induction sched with
  | nil => intro s h; exact h
  | cons t ts ih => intro s h; exact ih _ (step_inv s t h)

theorem init_inv (scripts : List (List Act)) : Inv (TSys.init scripts) := by
  have hth : ∀ (t : Nat) (th : TThread), (TSys.init scripts).threads[t]? = some th → th.tls = none ∧ th.pc = .idle 0 := by
    intro t th h
    obtain ⟨sc, _, rfl⟩ := List.mem_map.1 (List.mem_of_getElem? h)
    exact ⟨rfl, rfl⟩
  refine ⟨?_, ?_, ?_, ?_⟩
  · intro t th h; simp [ThOk, (hth t th h).2]
  · intro t th i h _ hi; rw [(hth t th h).1] at hi; cases hi
  · intro t u th tu i _ h _ _ _ hi; rw [(hth t th h).1] at hi; cases hi
  · intro i hi; simp [TSys.init] at hi

/-- **Each live thread has its own stack** — any number of threads, any scripts, any schedule: two different live threads
never hold the same temporary stack. -/
theorem C14_exclusive_stacks (scripts : List (List Act)) (sched : List Nat) :
    let s := (TSys.init scripts).run good sched
    ∀ (t u : Nat) (th tu : TThread) (i : Nat), t ≠ u → s.threads[t]? = some th → s.threads[u]? = some tu →
      th.live = true → tu.live = true → th.tls = some i → tu.tls ≠ some i :=
  (run_inv sched _ (init_inv scripts)).distinct

/-- **Stacks of finished threads are reused rather than leaked**: a stack that is marked in use has a live thread that
holds it and whose exit detector is armed; consequently once every thread has finished no stack is marked in use. -/
theorem C14_released_on_exit (scripts : List (List Act)) (sched : List Nat) :
    let s := (TSys.init scripts).run good sched
    (∀ i, i < s.inUse.length → s.inUse.getD i false = true →
      ∃ (t : Nat) (th : TThread), s.threads[t]? = some th ∧ th.live = true ∧ th.tls = some i ∧ th.armed = true) ∧
    ((∀ (t : Nat) (th : TThread), s.threads[t]? = some th → th.live = false) →
      ∀ i, i < s.inUse.length → s.inUse.getD i false = false) := by
  intro s
  have hI : Inv s := run_inv sched _ (init_inv scripts)
  refine ⟨?_, ?_⟩
  · intro i hi hiu
    obtain ⟨t, th, h1, h2, h3⟩ := hI.owned i hi hiu
    exact ⟨t, th, h1, h2, h3, (hI.holder t th i h1 h2 h3).2.2⟩
  · intro hall i hi
    cases h : s.inUse.getD i false with
    | false => rfl
    | true =>
      obtain ⟨t, th, h1, h2, _⟩ := hI.owned i hi h
      rw [hall t th h1] at h2; cases h2

/-- a thread only takes over a stack that is free at that moment, and only creates a new one after it has tried every
stack that was in the list when it started looking (**reuse before create**) -/
theorem C14_reuse_before_create (iu : List Bool) (th : TThread) (k i : Nat) (rest : List Nat) (hpc : th.pc = .atCas k (i :: rest)) :
    (iu.getD i true = false → (stepThread good iu th).2.tls = some i ∧ (stepThread good iu th).1 = iu.set i true) ∧
    (iu.getD i true = true → (stepThread good iu th).1 = iu ∧
      (stepThread good iu th).2.pc = (if rest = [] then .atPush k else .atCas k rest)) := by
  unfold stepThread
  rw [hpc]
  refine ⟨?_, ?_⟩
  · intro h
    simp only [h, ↓reduceIte, and_self]
  · intro h
    simp only [h, Bool.true_eq_false, ↓reduceIte]
    cases rest <;> simp

/-- **Everything is freed at program exit**: the repaired nifty counter destroys the list unconditionally -/
theorem C14_all_freed_at_exit (s : TSys) : s.destroyedAtExit good = true := by simp [TSys.destroyedAtExit, good]

/-! ### each repair is necessary (schedules replayed on the pinned code by the harness: same behaviour) -/

/-- D10 (no reset of the thread-local pointer): thread 0 creates a stack through an initializer and destroys the
initializer, thread 1 then takes the stack over while thread 0 still uses it -/
theorem C14_D10_shared_stack :
    let s := (TSys.init [[.initCtor, .initDtor, .get], [.get]]).run { resetTls := false } [0, 0, 0, 0, 0, 1, 1, 1]
    s.exclusive = false := by decide +kernel

/-- D11 (adopter never arms its exit detector): thread 0 creates a stack and exits, thread 1 adopts it and exits —
the stack stays marked in use for ever -/
theorem C14_D11_never_released :
    let s := (TSys.init [[.get], [.get]]).run { armOnAdopt := false } [0, 0, 0, 0, 0, 1, 1, 1, 1, 1]
    s.releasedOnExit = false ∧ s.threads.all (fun t => !t.live) = true := by decide +kernel

/-- D12: only a worker ever had a stack; at exit the main thread (thread 0) has none, so nothing is destroyed -/
theorem C14_D12_not_destroyed :
    let s := (TSys.init [[], [.get]]).run { destroyAlways := false } [1, 1, 1, 1, 1, 0]
    s.destroyedAtExit { destroyAlways := false } = false := by decide +kernel

/-- the same schedules on the repaired code -/
example : ((TSys.init [[.initCtor, .initDtor, .get], [.get]]).run good [0, 0, 0, 0, 0, 1, 1, 1]).exclusive = true := by decide +kernel
example : ((TSys.init [[.get], [.get]]).run good [0, 0, 0, 0, 0, 1, 1, 1, 1, 1]).releasedOnExit = true := by decide +kernel

end MemVerif.Props.C14
