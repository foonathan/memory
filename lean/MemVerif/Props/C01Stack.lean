import MemVerif.Lemmas.StackLive
/-!
# C01 — `memory_stack`: live allocations never overlap and lie inside the stack's blocks

Model: `MemStack` (Stack.lean) under the history semantics of `StackRun.lean` (`alloc`, `tryAlloc`, nested marker
scopes `m := top(); ops; unwind(m)`), with the caller's ledger `topLive`: the `(address, size)` of every successful
allocation made at the top level of the history. What a marker scope allocates is handed back by its `unwind`, so it
leaves the ledger; *inside* a scope the theorem applies again, to the scope's body run from the state at the marker with
the ledger at that point (the statement quantifies over the start state and the start ledger).

The history carries the placement invariant `SQ cur used live` (`Lemmas/StackLive.lean`); a whole scope leaves the top
pointer and the used blocks exactly as they were at the marker (C06), so it keeps the invariant of the ledger outside it.

Hypotheses: `hf` fences of at most 2^16 bytes (the library's is 0 or 8·k); `SOpsWf` sizes are `size_t` values and
alignments powers of two below 2^48; `hsrc`/`hlen` as for C06 (non-static source — `static_block_allocator` is covered
by the correspondence check only —, fewer than 2^64 blocks); `henv` is the environment assumption: the blocks owned at
the start and those the upstream allocator hands out during the history are well formed and pairwise disjoint (what
`malloc`/`mmap` guarantee; not provable about the library).
-/
namespace MemVerif.Props.C01Stack
open MemVerif.Model

/-- **`memory_stack`: live allocations never overlap and lie inside the stack's blocks, at every point of every
history.** -/
theorem C01_stack_live_disjoint_inside (cfg : Cfg) (e : EnvS) (hf : cfg.fence ≤ 2 ^ 16) (s : MemStack) (hs : s.Inv)
    (hsrc : s.arena.src.NonStatic) (k : Nat) (ops : List SOp) (hw : SOpsWf ops)
    (hlen : s.arena.used.length + s.arena.cached.length + (runOps cfg e s k ops).acquired.length < 2 ^ 64)
    (henv : BlocksOk (s.arena.used ++ s.arena.cached ++ (runOps cfg e s k ops).acquired))
    (live : List (Nat × Nat)) (hq : SQ s.cur s.arena.used live) :
    (topLive cfg e s k live ops).Pairwise RDisj ∧
    ∀ a ∈ topLive cfg e s k live ops, ∃ b ∈ (runOps cfg e s k ops).st.arena.used,
      b.base + implOff ≤ a.1 ∧ a.1 + a.2 ≤ b.base + b.size := by
  have h := sq_ops cfg e hf ops s k live ⟨hs.nonempty, hs.cached, hsrc⟩ hw hlen henv hq
  exact ⟨h.apart, fun a ha => let ⟨b, hb, h1, h2, _⟩ := h.inside a ha; ⟨b, hb, h1, h2⟩⟩

/-- a stack on which nothing is live (for instance a new one) satisfies the placement invariant -/
theorem C01_stack_initial (s : MemStack) (hs : s.Inv) : SQ s.cur s.arena.used [] :=
  ⟨hs.curIn, (fun _ h => nomatch h), List.Pairwise.nil⟩

def exS : MemStack := { arena := { src := .growing 2 1 8192, isCached := true, used := [⟨1048576, 4096⟩] }, cur := 1048592 }
def exE : EnvS := fun k => some (2097152 + k * 65536)
def exOps : List SOp := [.alloc 100 8, .scope [.alloc 5000 16, .alloc 7 1], .tryAlloc 64 16, .alloc 6000 8]

/-- non-vacuity: a concrete history (a block acquired inside a scope is reused from the cache afterwards) meets every
hypothesis of `C01_stack_live_disjoint_inside`, and its ledger is the expected one -/
example : exS.Inv ∧ exS.arena.src.NonStatic ∧ SOpsWf exOps ∧
    BlocksOk (exS.arena.used ++ exS.arena.cached ++ (runOps {} exE exS 0 exOps).acquired) ∧
    topLive {} exE exS 0 [] exOps = [(2097168, 6000), (1048704, 64), (1048592, 100)] ∧
    (runOps {} exE exS 0 exOps).st.arena.used = [⟨2097152, 8192⟩, ⟨1048576, 4096⟩] := by
  refine ⟨.single ⟨by decide, by decide, by decide⟩ (by decide) (by decide), trivial, ?_, by decide, by decide,
    by decide⟩
  · simp only [exOps, SOpsWf, SOpWf]
    exact ⟨⟨by decide, 3, by decide, rfl⟩, ⟨⟨by decide, 4, by decide, rfl⟩, ⟨by decide, 0, by decide, rfl⟩, trivial⟩,
      ⟨by decide, 4, by decide, rfl⟩, ⟨by decide, 3, by decide, rfl⟩, trivial⟩

end MemVerif.Props.C01Stack
