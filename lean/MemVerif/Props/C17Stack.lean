import MemVerif.Lemmas.StackAlloc
import MemVerif.Props.C17
/-!
C17, stack family (`memory_stack`, `iteration_allocator`, everything built on `detail::fixed_memory_stack`): **which bytes
an operation writes and with what**. A served allocation writes one footprint `[fence | padding | new memory | fence]`
that starts at the old top, or at the start of the block the stack grew into, and ends at the new top; `unwind` and
`next_iteration` write `freed_memory` from the new top upwards; a request that fails writes nothing, and without
`FOONATHAN_MEMORY_DEBUG_FILL` nothing is written at all. Memory handed out earlier lies below the old top of its block
(C01), so it is untouched.

The model functions (`Model/StackFill.lean`) are compared with the bytes the real code leaves in the footprint after every
operation of the stack and iteration subjects (`w=` field of the state dump).
-/
namespace MemVerif.Props.C17Stack
open MemVerif.Model
open C17 (fill_in fill_out)

/-- one `debug_fill` from `lo` up to `hi` (the writes of `unwind` and of `next_iteration`); if `hi < lo` the length is 0
and nothing is written -/
theorem fill_upto (m : Bytes) (lo hi v : Nat) :
    (∀ i, i < lo → fill m lo (hi - lo) v i = m i) ∧ (∀ i, lo ≤ i → i < hi → fill m lo (hi - lo) v i = v) ∧
      (∀ i, hi ≤ i → lo ≤ hi → fill m lo (hi - lo) v i = m i) :=
  ⟨fun _ h => fill_out _ (.inl h), fun _ a b => fill_in _ a (by omega), fun _ a b => fill_out _ (.inr (by omega))⟩

/-- **the footprint of one allocation**: patterns inside, nothing outside -/
theorem C17_stack_alloc_pattern (m : Bytes) (cur size offset fence : Nat) :
    let m' := applyFills m (allocFills cur size offset fence)
    (∀ i, cur ≤ i → i < cur + fence → m' i = magicFence) ∧
    (∀ i, cur + fence ≤ i → i < cur + fence + offset → m' i = magicAlign) ∧
    (∀ i, cur + fence + offset ≤ i → i < cur + fence + offset + size → m' i = magicNew) ∧
    (∀ i, cur + fence + offset + size ≤ i → i < cur + fence + offset + size + fence → m' i = magicFence) ∧
    (∀ i, i < cur ∨ cur + fence + offset + size + fence ≤ i → m' i = m i) := by
  intro m'
  have hm' : m' = fill (fill (fill (fill m cur fence magicFence) (cur + fence) offset magicAlign) (cur + fence + offset) size magicNew)
      (cur + fence + offset + size) fence magicFence := rfl
  -- the segments are written in ascending order: a byte below the end of one lies below the start of every later one
  have lt : ∀ {i a} b, i < a → i < a + b := fun b h => Nat.lt_add_right b h
  have le : ∀ {i a b}, a + b ≤ i → a ≤ i := Nat.le_of_add_right_le
  rw [hm']
  refine ⟨fun i h1 h2 => ?_, fun i h1 h2 => ?_, fun i h1 h2 => ?_, fun i h1 h2 => ?_, fun i h => ?_⟩
  · rw [fill_out _ (.inl (lt _ (lt _ h2))), fill_out _ (.inl (lt _ h2)), fill_out _ (.inl h2), fill_in _ h1 h2]
  · rw [fill_out _ (.inl (lt _ h2)), fill_out _ (.inl h2), fill_in _ h1 h2]
  · rw [fill_out _ (.inl h2), fill_in _ h1 h2]
  · rw [fill_in _ h1 h2]
  · rcases h with h | h
    · rw [fill_out _ (.inl (lt _ (lt _ (lt _ h)))), fill_out _ (.inl (lt _ (lt _ h))), fill_out _ (.inl (lt _ h)),
        fill_out _ (.inl h)]
    · rw [fill_out _ (.inr h), fill_out _ (.inr (le h)), fill_out _ (.inr (le (le h))), fill_out _ (.inr (le (le (le h))))]

/-- **`memory_stack::allocate` writes exactly one footprint** that ends at the new top and starts at the old top or at
the start of the block the stack grew into -/
theorem C17_stack_allocate_writes (cfg : Cfg) (s : MemStack) (size align : Nat) (env : List (Option Nat)) (hfill : cfg.fill = true)
    {p : Nat} (hout : (s.allocate cfg size align env).2.1 = .ok p) :
    ∃ start off, s.allocateFills cfg size align env = allocFills start size off cfg.fence ∧
      start + cfg.fence + off = p ∧ p + size + cfg.fence = (s.allocate cfg size align env).1.cur ∧
      (start = s.cur ∨ ∃ a b ev r, s.arena.allocateBlock env = .ok a b ev r ∧ start = b.base) := by
  obtain ⟨fs, h, hfs⟩ := MemStack.allocate_shape cfg s size align env
  rw [hfs, if_pos hfill]
  generalize s.allocate cfg size align env = res at h hout
  cases h with
  | bump => cases hout; exact ⟨_, _, rfl, rfl, rfl, .inl rfl⟩
  | grow _ ha => cases hout; exact ⟨_, _, rfl, rfl, rfl, .inr ⟨_, _, _, _, ha, rfl⟩⟩
  | _ => cases hout

/-- **a failed `memory_stack::allocate` writes nothing** -/
theorem C17_stack_failure_writes_nothing (cfg : Cfg) (s : MemStack) (size align : Nat) (env : List (Option Nat))
    (hout : ∀ p, (s.allocate cfg size align env).2.1 ≠ .ok p) : s.allocateFills cfg size align env = [] := by
  obtain ⟨fs, h, hfs⟩ := MemStack.allocate_shape cfg s size align env
  rw [hfs]
  generalize s.allocate cfg size align env = res at h hout
  cases h with
  | bump => exact absurd rfl (hout _)
  | grow => exact absurd rfl (hout _)
  | _ => exact ite_self _

/-- **frame and pattern of a successful allocation**: the returned bytes carry `new_memory`, the fences before and
after it `fence_memory`, and no byte below the footprint's start — the old top, or the start of the block the stack grew
into — or at / above the new top changes -/
theorem C17_stack_allocate_frame (cfg : Cfg) (s : MemStack) (size align : Nat) (env : List (Option Nat)) (hfill : cfg.fill = true)
    {p : Nat} (hout : (s.allocate cfg size align env).2.1 = .ok p) (m : Bytes) :
    let m' := applyFills m (s.allocateFills cfg size align env)
    ∃ start, (start = s.cur ∨ ∃ a b ev r, s.arena.allocateBlock env = .ok a b ev r ∧ start = b.base) ∧
      start + cfg.fence ≤ p ∧
      (∀ i, start ≤ i → i < start + cfg.fence → m' i = magicFence) ∧
      (∀ i, start + cfg.fence ≤ i → i < p → m' i = magicAlign) ∧
      (∀ i, p ≤ i → i < p + size → m' i = magicNew) ∧
      (∀ i, p + size ≤ i → i < p + size + cfg.fence → m' i = magicFence) ∧
      (∀ i, i < start → m' i = m i) ∧
      (∀ i, (s.allocate cfg size align env).1.cur ≤ i → m' i = m i) := by
  intro m'
  obtain ⟨start, off, hf, rfl, h2, h3⟩ := C17_stack_allocate_writes cfg s size align env hfill hout
  obtain ⟨q1, q2, q3, q4, q5⟩ := C17_stack_alloc_pattern m start size off cfg.fence
  have hm' : m' = applyFills m (allocFills start size off cfg.fence) := congrArg (applyFills m) hf
  rw [hm', ← h2]
  exact ⟨start, h3, Nat.le_add_right _ _, q1, q2, q3, q4, fun i a => q5 i (.inl a), fun i a => q5 i (.inr a)⟩

/-- … and when the stack grew, the whole footprint lies inside the block it grew into -/
theorem C17_stack_allocate_in_block (cfg : Cfg) (s : MemStack) (size align : Nat) (env : List (Option Nat)) (hfill : cfg.fill = true)
    (hf : cfg.fence ≤ 2 ^ 16) {k : Nat} (hk : k < 48) (hal : align = 2 ^ k) (hsz : size < 2 ^ 64)
    {p : Nat} (hout : (s.allocate cfg size align env).2.1 = .ok p) {a : Arena} {b : Blk} {ev : List UpEv} {r : List (Option Nat)}
    (ha : s.arena.allocateBlock env = .ok a b ev r) (hb : b.base + b.size ≤ 2 ^ 62) (hgrow : (s.allocate cfg size align env).1.arena = a) :
    s.allocateFills cfg size align env = allocFills s.cur size (alignOff (s.cur + cfg.fence) align) cfg.fence ∨
    (b.base + cfg.fence ≤ p ∧ (s.allocate cfg size align env).1.cur ≤ b.base + b.size) := by
  obtain ⟨fs, h, hfs⟩ := MemStack.allocate_shape cfg s size align env
  rw [hfs, if_pos hfill]
  generalize s.allocate cfg size align env = res at h hout
  cases h with
  | bump => exact .inl rfl
  | grow _ ha' hn =>
    cases ha.symm.trans ha'
    cases hout
    subst hal
    exact .inr ⟨add_fence_le_bumpPtr .., grow_fits cfg b hk hsz hf hb hn⟩
  | _ => cases hout

/-- `try_allocate`: one footprint at the old top, or nothing -/
theorem C17_stack_try_allocate_writes (cfg : Cfg) (s : MemStack) (size align : Nat) (hfill : cfg.fill = true) :
    (∀ p, (s.tryAllocate cfg size align).2 = .ok p →
      s.tryAllocateFills cfg size align = allocFills s.cur size (alignOff (s.cur + cfg.fence) align) cfg.fence ∧
      s.cur + cfg.fence + alignOff (s.cur + cfg.fence) align = p ∧ p + size + cfg.fence = (s.tryAllocate cfg size align).1.cur) ∧
    ((∀ p, (s.tryAllocate cfg size align).2 ≠ .ok p) → s.tryAllocateFills cfg size align = []) := by
  obtain ⟨fs, h, hfs⟩ := MemStack.tryAllocate_shape cfg s size align
  rw [hfs, if_pos hfill]
  generalize s.tryAllocate cfg size align = res at h
  cases h with
  | crash => exact ⟨nofun, fun _ => rfl⟩
  | null => exact ⟨nofun, fun _ => rfl⟩
  | ok he hfa =>
    obtain ⟨rfl, rfl⟩ := fixedAllocate_some hfa
    exact ⟨fun _ h => by cases h; exact ⟨rfl, rfl, rfl⟩, fun h => absurd rfl (h _)⟩

/-- `unwind` writes one fill, from the marker's top up to the old top — or, when blocks were given back, up to the end
of the marker's block — and only when it succeeds -/
theorem unwindFills_eq (cfg : Cfg) (s : MemStack) (mk : Marker) :
    s.unwindFills cfg mk =
      if cfg.fill = true ∧ (s.unwindEv cfg mk).2.1 = .done then
        [(mk.top, (if sub64 (s.arena.used.length - 1) mk.index ≠ 0 then mk.end_ else s.cur) - mk.top, magicFreed)]
      else [] := by
  unfold MemStack.unwindFills
  cases cfg.fill
  · simp
  · cases (s.unwindEv cfg mk).2.1 <;> simp
    split <;> rfl

/-- **`unwind(m)` writes `freed_memory` from the marker's top upwards and nothing else**: every byte below the marker —
the allocations that stay live — keeps its value; a rejected unwind writes nothing -/
theorem C17_stack_unwind_writes (cfg : Cfg) (s : MemStack) (mk : Marker) (m : Bytes) :
    let m' := applyFills m (s.unwindFills cfg mk)
    (∀ i, i < mk.top → m' i = m i) ∧
    ((s.unwindEv cfg mk).2.1 ≠ .done → s.unwindFills cfg mk = []) ∧
    ((s.unwindEv cfg mk).2.1 = .done → cfg.fill = true → sub64 (s.arena.used.length - 1) mk.index = 0 →
      (∀ i, mk.top ≤ i → i < s.cur → m' i = magicFreed) ∧ (∀ i, s.cur ≤ i → mk.top ≤ s.cur → m' i = m i)) ∧
    ((s.unwindEv cfg mk).2.1 = .done → cfg.fill = true → sub64 (s.arena.used.length - 1) mk.index ≠ 0 →
      (∀ i, mk.top ≤ i → i < mk.end_ → m' i = magicFreed) ∧ (∀ i, mk.end_ ≤ i → mk.top ≤ mk.end_ → m' i = m i)) := by
  intro m'
  have hm' : m' = applyFills m (s.unwindFills cfg mk) := rfl
  rw [unwindFills_eq] at hm' ⊢
  by_cases h : cfg.fill = true ∧ (s.unwindEv cfg mk).2.1 = .done
  · rw [if_pos h] at hm' ⊢
    obtain ⟨h1, h2, h3⟩ := fill_upto m mk.top (if sub64 (s.arena.used.length - 1) mk.index ≠ 0 then mk.end_ else s.cur) magicFreed
    rw [show m' = fill m mk.top ((if sub64 (s.arena.used.length - 1) mk.index ≠ 0 then mk.end_ else s.cur) - mk.top)
      magicFreed from hm']
    refine ⟨h1, fun hne => absurd h.2 hne, fun _ _ hk => ?_, fun _ _ hk => ?_⟩
    · rw [if_neg (fun hn => hn hk)] at h2 h3 ⊢; exact ⟨h2, h3⟩
    · rw [if_pos hk] at h2 h3 ⊢; exact ⟨h2, h3⟩
  · rw [if_neg h] at hm' ⊢
    exact ⟨fun _ _ => by rw [hm']; rfl, fun _ => rfl, fun hd hf => absurd ⟨hf, hd⟩ h, fun hd hf => absurd ⟨hf, hd⟩ h⟩

/-- **`next_iteration` marks exactly the used part of the region it switches to** -/
theorem C17_iter_next_writes (cfg : Cfg) (it : Iter) (hfill : cfg.fill = true) (m : Bytes) :
    let c := (it.cur + 1) % it.n
    let m' := applyFills m (it.nextIterationFills cfg)
    (∀ i, it.blockStart c ≤ i → i < it.tops.getD c 0 → m' i = magicFreed) ∧
    (∀ i, i < it.blockStart c ∨ (it.tops.getD c 0 ≤ i ∧ it.blockStart c ≤ it.tops.getD c 0) → m' i = m i) := by
  intro c m'
  have e : m' = fill m (it.blockStart c) (it.tops.getD c 0 - it.blockStart c) magicFreed := by
    show applyFills m (it.nextIterationFills cfg) = _
    rw [Iter.nextIterationFills, hfill]; rfl
  obtain ⟨h1, h2, h3⟩ := fill_upto m (it.blockStart c) (it.tops.getD c 0) magicFreed
  rw [e]
  exact ⟨h2, fun i h => h.elim (h1 i) fun h => h3 i h.1 h.2⟩

/-- `iteration_allocator::allocate` writes one footprint at the current stack's top, or nothing when it throws -/
theorem C17_iter_allocate_writes (cfg : Cfg) (it : Iter) (size align : Nat) (hfill : cfg.fill = true) :
    (∀ p, (it.allocate cfg size align).2 = .ok p →
      it.allocateFills cfg size align = allocFills (it.tops.getD it.cur 0) size (alignOff (it.tops.getD it.cur 0 + cfg.fence) align) cfg.fence ∧
      it.tops.getD it.cur 0 + cfg.fence + alignOff (it.tops.getD it.cur 0 + cfg.fence) align = p) ∧
    ((∀ p, (it.allocate cfg size align).2 ≠ .ok p) → it.allocateFills cfg size align = []) := by
  unfold Iter.allocate Iter.allocateFills
  simp only [hfill, Bool.not_true, Bool.false_eq_true, if_false]
  split
  · exact ⟨nofun, fun _ => rfl⟩
  · refine ⟨fun p hp => ?_, fun h => absurd rfl (h _)⟩
    cases hp
    exact ⟨rfl, rfl⟩

/-- **without `FOONATHAN_MEMORY_DEBUG_FILL` nothing is written** -/
theorem C17_stack_nofill (cfg : Cfg) (hfill : cfg.fill = false) (s : MemStack) (it : Iter) (size align : Nat) (env : List (Option Nat))
    (mk : Marker) :
    s.allocateFills cfg size align env = [] ∧ s.tryAllocateFills cfg size align = [] ∧ s.unwindFills cfg mk = [] ∧
    it.allocateFills cfg size align = [] ∧ it.tryAllocateFills cfg size align = [] ∧ it.nextIterationFills cfg = [] := by
  unfold MemStack.allocateFills MemStack.tryAllocateFills MemStack.unwindFills Iter.allocateFills Iter.tryAllocateFills
    Iter.nextIterationFills
  simp [hfill]

/-- the run-length text of a footprint (a test, labelled as a test) -/
example : fillsStr (allocFills 1000 24 3 8) = " w=1000:fd*8,ed*3,cd*24,fd*8" := by decide +kernel
example : fillsStr (allocFills 1000 24 0 0) = " w=1000:cd*24" := by decide +kernel
example : fillsStr [] = " w=-" := by decide +kernel

end MemVerif.Props.C17Stack
