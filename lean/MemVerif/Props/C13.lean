import MemVerif.Gen.Consts
import MemVerif.Model.Lock
import MemVerif.Lemmas.Util
/-!
# C13 — thread_safe_allocator serialises all access to the wrapped allocator

The lock discipline is read off the table that the translator regenerates from the AST of `allocator_storage` on every
run: every member that forwards an operation to the wrapped allocator declares the lock guard first (evaluation over the
complete, finite table is a proof). Given the discipline every thread's script is well-bracketed (`Shape`), and under any
schedule the lock system keeps "a thread holds the mutex iff it owns it, and every access so far was made by the owner"
(`Inv`; a step is one thread moving: `Inv.set`).
-/
namespace MemVerif.Props.C13
open MemVerif.Model MemVerif.Gen

def TableOk (tbl : List StorageMember) : Bool := tbl.all fun m => !m.reaches || m.locksFirst

/-- **Every forwarding member locks first** (throwing, composable and size-query members alike), and the proxy locks in its
constructor and unlocks in its destructor — checked on the generated table -/
theorem C13_members_lock : TableOk storageMembers = true ∧ lockedProxyCtorLocks = true ∧ lockedProxyDtorUnlocks = true ∧
    lockedProxyMoveEmpties = true := by decide +kernel

/-- the table is not empty and contains the members the property names -/
theorem C13_table_complete :
    (["allocate_node", "allocate_array", "deallocate_node", "deallocate_array", "try_allocate_node", "try_allocate_array",
      "try_deallocate_node", "try_deallocate_array", "max_node_size", "max_array_size", "max_alignment", "lock"].all
        fun n => storageMembers.any fun m => m.name == n && (m.reaches || m.proxy)) = true := by decide +kernel

/-- `get_allocator()` hands out a reference without locking: by design (documented as unsynchronised; use `lock()`) -/
theorem C13_get_allocator_is_unsynchronised :
    (storageMembers.filter fun m => m.returnsRef).all (fun m => !m.locksFirst && !m.reaches) = true := by decide +kernel

/-- well-bracketed scripts: `Shape h s` — a thread that currently holds (`h`) / does not hold the mutex and still has to
execute `s`; an access only ever occurs while holding -/
inductive Shape : Bool → List MStep → Prop
  | done : Shape false []
  | lock {rest} : Shape true rest → Shape false (.lock :: rest)
  | access {rest} : Shape true rest → Shape true (.access :: rest)
  | unlock {rest} : Shape false rest → Shape true (.unlock :: rest)

theorem shape_block (k : Nat) {rest : List MStep} (hr : Shape false rest) :
    Shape false (.lock :: (List.replicate k .access ++ .unlock :: rest)) := by
  apply Shape.lock
  induction k with
  | zero => exact Shape.unlock hr
  | succ k ih => exact Shape.access ih

theorem shape_program :
    ∀ (p : List Call), (∀ m, .member m ∈ p → (!m.reaches || m.locksFirst) = true) → Shape false (programScript p) := by
  intro p
  induction p with
  | nil => intro _; exact Shape.done
  | cons c cs ih =>
    intro h
    have hcs := ih fun m hm => h m (List.mem_cons_of_mem _ hm)
    unfold programScript at *
    simp only [List.flatMap_cons]
    cases c with
    | member m =>
      have hm := h m List.mem_cons_self
      simp only [Call.script, memberScript]
      by_cases hr : m.reaches = true
      · have hl : m.locksFirst = true := by simpa [hr] using hm
        simp only [hr, hl, ↓reduceIte]
        exact shape_block 1 hcs
      · simp only [hr, Bool.false_eq_true, ↓reduceIte, List.nil_append]
        exact hcs
    | viaProxy k =>
      simp only [Call.script, C13_members_lock.2.1, C13_members_lock.2.2.1, ↓reduceIte, List.append_assoc, List.cons_append,
        List.nil_append]
      exact shape_block k hcs

structure Inv (s : LockSys) : Prop where
  shape : ∀ (t : Nat) (th : Thread), s.threads[t]? = some th → Shape th.holding th.script
  holdOwner : ∀ (t : Nat) (th : Thread), s.threads[t]? = some th → (th.holding = true ↔ s.owner = some t)
  logOk : ∀ e ∈ s.log, e.2 = true

theorem Inv.set {s : LockSys} (hI : Inv s) {t : Nat} {th' : Thread} {owner' : Option Nat} {log' : List (Nat × Bool)}
    (hshape : Shape th'.holding th'.script) (hhold : th'.holding = true ↔ owner' = some t)
    (hothers : ∀ u, u ≠ t → (owner' = some u ↔ s.owner = some u)) (hlog : ∀ e ∈ log', e.2 = true) :
    Inv { threads := s.threads.set t th', owner := owner', log := log' } := by
  refine ⟨?_, ?_, hlog⟩
  · intro u thu hu
    rcases List.getElem?_set_cases hu with ⟨rfl, rfl⟩ | ⟨_, hu⟩
    · exact hshape
    · exact hI.shape u thu hu
  · intro u thu hu
    rcases List.getElem?_set_cases hu with ⟨rfl, rfl⟩ | ⟨hut, hu⟩
    · exact hhold
    · exact (hI.holdOwner u thu hu).trans (hothers u hut).symm

theorem step_inv (s : LockSys) (t : Nat) (hI : Inv s) : Inv (s.step t) := by
  unfold LockSys.step
  cases hth : s.threads[t]? with
  | none => exact hI
  | some th =>
    have hshape := hI.shape t th hth
    have hho := hI.holdOwner t th hth
    obtain ⟨script, holding⟩ := th
    -- `Shape` says whether the thread holds the mutex before the step, the invariant then who owns it
    cases hshape with
    | done => exact hI
    | lock hrest =>
      dsimp only
      split
      · next hown => exact hI.set hrest (by simp) (fun u hut => by simp [hown, Ne.symm hut]) hI.logOk
      · exact hI
    | access hrest =>
      have hown : s.owner = some t := hho.1 rfl
      refine hI.set hrest (by simpa using hho) (fun _ _ => Iff.rfl) fun e he => ?_
      rcases List.mem_cons.1 he with rfl | he
      · simp [hown]
      · exact hI.logOk e he
    | unlock hrest =>
      have hown : s.owner = some t := hho.1 rfl
      exact hI.set hrest (by simp [hown]) (fun u hut => by simp [hown, Ne.symm hut]) hI.logOk

theorem run_inv (sched : List Nat) : ∀ (s : LockSys), Inv s → Inv (s.run sched) := by
  induction sched with
  | nil => intro s h; exact h
  | cons t ts ih => intro s h; exact ih _ (step_inv s t h)

theorem init_inv (programs : List (List Call))
    (hp : ∀ p ∈ programs, ∀ m, .member m ∈ p → (!m.reaches || m.locksFirst) = true) :
    Inv (LockSys.init programs) := by
  refine ⟨fun t th h => ?_, fun t th h => ?_, nofun⟩
  · obtain ⟨p, hpp, rfl⟩ := List.mem_map.1 (List.mem_of_getElem? h)
    exact shape_program p (hp p hpp)
  · obtain ⟨p, _, rfl⟩ := List.mem_map.1 (List.mem_of_getElem? h)
    exact ⟨nofun, nofun⟩

/-- **Mutual exclusion / every access under the lock** — any number of threads, any programs built from the members of
the generated table and from `lock()` proxy uses, any schedule: every access to the wrapped allocator was executed by the
thread owning the mutex at that moment, and no two threads hold the mutex at once. -/
theorem C13_mutual_exclusion (programs : List (List Call))
    (hp : ∀ p ∈ programs, ∀ c ∈ p, ∀ m, c = .member m → m ∈ storageMembers) (sched : List Nat) :
    let s := (LockSys.init programs).run sched
    (∀ e ∈ s.log, e.2 = true) ∧
    (∀ (t u : Nat) (th tu : Thread), s.threads[t]? = some th → s.threads[u]? = some tu → th.holding = true →
      tu.holding = true → t = u) := by
  intro s
  have htbl : ∀ m ∈ storageMembers, (!m.reaches || m.locksFirst) = true := List.all_eq_true.1 C13_members_lock.1
  have hI : Inv s := run_inv sched _ (init_inv programs fun p hpp m hm => htbl m (hp p hpp _ hm m rfl))
  refine ⟨hI.logOk, ?_⟩
  intro t u th tu ht hu hht hhu
  have h1 := (hI.holdOwner t th ht).1 hht
  have h2 := (hI.holdOwner u tu hu).1 hhu
  rw [h1] at h2
  simpa using h2

/-- the hypothesis is necessary: one forwarding member without the lock guard lets an access run without the mutex
(what a new member added without `std::lock_guard` would do; here with a hand-made table entry) -/
theorem C13_unlocked_member_races :
    let bad : StorageMember := ⟨"new_member", false, true, false, false, false⟩
    let good : StorageMember := ⟨"allocate_node", false, true, true, false, false⟩
    ((LockSys.init [[.member good], [.member bad]]).run [0, 1]).log = [(1, false)] := by decide +kernel

/-- non-vacuity: three threads, interleaved; all accesses under the lock -/
example :
    let m : StorageMember := ⟨"allocate_node", false, true, true, false, false⟩
    ((LockSys.init [[.member m, .viaProxy 2], [.member m], [.viaProxy 1]]).run
      [0, 1, 2, 0, 0, 1, 2, 1, 1, 2, 2, 0, 0, 0, 0, 2]).log.all (·.2) = true := by decide +kernel

/-! ### the mutex is really there for every stateful allocator -/

/-- every stateful allocator — whether it says so itself or is merely a non-empty class, and **also an empty class that
declares `is_stateful`** (its state lives elsewhere: a handle to a global arena) — gets the real mutex -/
theorem C13_stateful_takes_mutex (declared : Option Bool) (empty : Bool) (h : isStateful declared empty = true) :
    takesMutex declared empty = true := by
  simp [takesMutex, isThreadSafe, h]

/-- stateless allocators take no lock -/
theorem C13_stateless_takes_no_mutex (declared : Option Bool) (empty : Bool) (h : isStateful declared empty = false) :
    takesMutex declared empty = false := by
  simp [takesMutex, isThreadSafe, h]

/-- **The compiled code selects the mutex as the model says**, for the five allocator archetypes
(`is_stateful` absent / `true_type` / `false_type`) × (empty / non-empty class): the values on the left are printed by a
probe compiled against the current source tree (`std::is_same<detail::mutex_for<A, std::mutex>, std::mutex>` and the
storage object derives from `mutex_storage<std::mutex>`). -/
theorem C13_mutex_selection_matches_code :
    MemVerif.Gen.C.mutexfor_none_empty.toNat = (takesMutex none true).toNat ∧
    MemVerif.Gen.C.mutexfor_none_nonempty.toNat = (takesMutex none false).toNat ∧
    MemVerif.Gen.C.mutexfor_true_empty.toNat = (takesMutex (some true) true).toNat ∧
    MemVerif.Gen.C.mutexfor_true_nonempty.toNat = (takesMutex (some true) false).toNat ∧
    MemVerif.Gen.C.mutexfor_false_empty.toNat = (takesMutex (some false) true).toNat := by decide +kernel

end MemVerif.Props.C13
