import MemVerif.Lemmas.CollHist
/-!
C04 for `memory_pool_collection` over the intrusive free lists, node operations: **no capacity is lost over any
history**. For every bucket, (free cells of the bucket) + (live nodes served by it) never decreases, and the library's
own capacity counter of the bucket equals its number of free cells under `CInv` (`capacity_eq_cells`).

`…_partial`: arrays on collections are proved in `Props/C04CollArr`; `small_node_pool` buckets stay at the
correspondence level (`checks/c04.py`).
The second half of C04 (no upstream request while the matching list holds a node) is `C04.C04_coll_no_growth_while_nonempty`.
-/
namespace MemVerif.Props.C04Coll
open MemVerif.Model

/-- the library's `capacity()` of bucket `j` (in nodes) -/
def capacityAt (c : Coll) (j : Nat) : Nat := ((c.lists[j]?).map AnyList.capacity).getD 0

theorem capacity_eq_cells {arr arrLen : Nat} {c : Coll} {live : List (Nat × Nat)} (h : CInv arr arrLen c live) (j : Nat) :
    capacityAt c j = c.cellsAt j := by
  unfold capacityAt Coll.cellsAt
  cases hl : c.lists[j]? with
  | none => rfl
  | some l =>
    obtain ⟨_, hS, _⟩ := h.lists j l hl
    exact hS.capacity

theorem capacity_of_measure {arr arrLen : Nat} {c c1 : Coll} {live live1 : List (Nat × Nat)} (h : CInv arr arrLen c live)
    (h1 : CInv arr arrLen c1 live1) {j : Nat} (hm : c.measure live j ≤ c1.measure live1 j) (hend : live1 = []) :
    capacityAt c j + c.liveAt live j ≤ capacityAt c1 j := by
  rw [capacity_eq_cells h, capacity_eq_cells h1]
  unfold Coll.measure at hm
  rw [hend] at hm
  simpa [Coll.liveAt] using hm

/-- **C04 (accounting), collections, node operations.** Along every history, for every bucket: free cells + live nodes
served by the bucket never decrease. -/
theorem C04_coll_measure_monotone_partial (cfg : Cfg) (e : EnvS) (arr arrLen : Nat) (hf : cfg.fence ≤ 2 ^ 32) (g : GColl)
    (k : Nat) (ops : List COpn) (hI : CInv arr arrLen g.c g.live) (henv : BlocksOk (g.run cfg e k ops).1.c.arena.used)
    (j : Nat) :
    g.c.measure g.live j ≤ (g.run cfg e k ops).1.c.measure (g.run cfg e k ops).1.live j :=
  (GColl.run_kept cfg e hf ops g k hI henv).measure j

/-- **C04 (no capacity lost), collections, node operations.** If at the end of a history nothing is live, every
bucket's `capacity()` is at least its capacity at the start plus the number of nodes of that bucket that were live at
the start. In particular a history that starts and ends with nothing live never lowers any bucket's capacity. -/
theorem C04_coll_no_capacity_lost_partial (cfg : Cfg) (e : EnvS) (arr arrLen : Nat) (hf : cfg.fence ≤ 2 ^ 32) (g : GColl)
    (k : Nat) (ops : List COpn) (hI : CInv arr arrLen g.c g.live) (henv : BlocksOk (g.run cfg e k ops).1.c.arena.used)
    (hend : (g.run cfg e k ops).1.live = []) (j : Nat) :
    capacityAt g.c j + g.c.liveAt g.live j ≤ capacityAt (g.run cfg e k ops).1.c j :=
  capacity_of_measure hI (GColl.run_kept cfg e hf ops g k hI henv).inv
    (C04_coll_measure_monotone_partial cfg e arr arrLen hf g k ops hI henv j) hend

/-- **Every release keeps the measure exactly**: `deallocate_node` of a live node returns exactly one cell to its bucket and
changes no other bucket. (A request served from the list keeps it exactly too: `Exch.measure` with `CInv.exchPop`.) -/
theorem C04_coll_step_exact (cfg : Cfg) (arr arrLen : Nat) (c : Coll) (live : List (Nat × Nat))
    (hI : CInv arr arrLen c live) (i a s j : Nat) (hi : live[i]? = some (a, s)) :
    (c.deallocateNode cfg a s).st.measure (live.eraseIdx i) j = c.measure live j := by
  obtain ⟨l, l', e, x⟩ := hI.exchPush cfg hi
  rw [e]
  exact x.measure j

/-- the hypotheses are satisfiable and the bound is attained (a test, labelled as a test): the collection of
`C01Coll.demo`; after releasing everything the capacities are exactly free cells = everything ever carved -/
def demo : Bool :=
  let cfg : Cfg := { fence := 16, dblDealloc := true, assert := true }
  let e : EnvS := fun k => if k = 0 then some 4096 else if k = 1 then some 65536 else none
  let ops : List COpn := [.allocNode 8, .allocNode 33, .tryAllocNode 64, .allocNode 17, .dealloc 1, .allocNode 64,
    .allocNode 9, .tryAllocNode 3, .dealloc 0, .allocNode 40, .allocNode 64, .tryAllocNode 65,
    .dealloc 6, .dealloc 0, .dealloc 0, .dealloc 0, .dealloc 0, .dealloc 0, .dealloc 0]
  match Coll.create cfg (.growing 2 1 1000) "free" .log2 false 64 [e 0] with
  | (some c0, _, _) =>
    let g := (GColl.run cfg e ⟨c0, []⟩ 1 ops).1
    decide (g.live = []) && decide ((List.range 4).map (capacityAt c0) = [0, 0, 0, 0]) &&
      decide ((List.range 4).map (capacityAt g.c) = (List.range 4).map g.c.cellsAt) &&
      decide (0 < capacityAt g.c 0 ∧ 0 < capacityAt g.c 1 ∧ 0 < capacityAt g.c 2 ∧ 0 < capacityAt g.c 3)
  | _ => false

example : demo = true := by decide +kernel

end MemVerif.Props.C04Coll
