import MemVerif.Model.Joint
import MemVerif.Lemmas.StackArith
/-!
# C11 — joint allocations stay inside the object's single block and it is freed whole
-/
namespace MemVerif.Props.C11
open MemVerif.Model

/-- state of the statement: the joint stack plus the pieces handed to members and not given back -/
structure JState where
  j : Joint
  live : List (Nat × Nat)     -- (address, size)

def disjoint (a b : Nat × Nat) : Prop := a.1 + a.2 ≤ b.1 ∨ b.1 + b.2 ≤ a.1

/-- invariant: the stack is inside the block, every live piece lies in `[mem, top)`, pieces are pairwise disjoint -/
structure Inv (s : JState) : Prop where
  order : s.j.mem ≤ s.j.top ∧ s.j.top ≤ s.j.end_ ∧ s.j.end_ < 2 ^ 64 ∧ 0 < s.j.mem
  inside : ∀ r ∈ s.live, s.j.mem ≤ r.1 ∧ r.1 + r.2 ≤ s.j.top ∧ 0 < r.2
  disj : s.live.Pairwise disjoint

/-- a member allocates: success adds the piece, failure (`out_of_fixed_memory`) changes nothing -/
def allocStep (s : JState) (size align : Nat) : JState × Out :=
  match s.j.allocate size align with
  | (j', .ok p) => ({ j := j', live := (p, size) :: s.live }, .ok p)
  | (j', o) => ({ s with j := j' }, o)

/-- a member releases a piece it holds -/
def deallocStep (s : JState) (r : Nat × Nat) : JState :=
  { j := s.j.deallocate r.1 r.2, live := s.live.erase r }

theorem Inv.create (obj objSize extra : Nat) (h : obj + objSize + extra < 2 ^ 64) (ho : 0 < obj + objSize) :
    Inv { j := Joint.create obj objSize extra, live := [] } :=
  ⟨⟨Nat.le_refl _, by simp [Joint.create], by simpa [Joint.create] using h, by simpa [Joint.create] using ho⟩,
   by simp, List.Pairwise.nil⟩

theorem allocStep_eq (s : JState) (size align : Nat) :
    allocStep s size align = match fixedAllocate s.j.top s.j.end_ size align 0 with
      | none => (s, .throws .oofm)
      | some (p, c) => ({ j := { s.j with top := c }, live := (p, size) :: s.live }, .ok p) := by
  unfold allocStep Joint.allocate
  cases fixedAllocate s.j.top s.j.end_ size align 0 <;> rfl

/-- **Inside, aligned, disjoint; overflow throws** — one allocation step, every size (≥ 1) and every power-of-two
alignment: a served piece is aligned, lies inside the object's block after everything handed out before, and is disjoint
from every live piece; a piece that does not fit yields `out_of_fixed_memory` with the state unchanged; an exactly
fitting piece is served. -/
theorem C11_allocate (s : JState) (hI : Inv s) (size k : Nat) (hk : k < 64) (hs0 : 0 < size) (hs : size < 2 ^ 64)
    (hroom : s.j.top + 2 ^ k < 2 ^ 64) :
    (∀ s' p, allocStep s size (2 ^ k) = (s', .ok p) →
        p % 2 ^ k = 0 ∧ s.j.top ≤ p ∧ p + size = s'.j.top ∧ s'.j.top ≤ s.j.end_ ∧ s'.j.mem = s.j.mem ∧ s'.j.end_ = s.j.end_ ∧
        (∀ r ∈ s.live, disjoint (p, size) r) ∧ Inv s') ∧
    (∀ s' e, allocStep s size (2 ^ k) = (s', .throws e) → e = .oofm ∧ s' = s ∧
        ¬ (alignOff s.j.top (2 ^ k) + size ≤ s.j.end_ - s.j.top)) ∧
    (alignOff s.j.top (2 ^ k) + size ≤ s.j.end_ - s.j.top → ∃ s' p, allocStep s size (2 ^ k) = (s', .ok p)) := by
  obtain ⟨⟨o1, o2, o3, o4⟩, hin, hdj⟩ := hI
  -- served iff `top + padding + size ≤ end` (`fixedAllocate_eq_some` with fence 0)
  have hiff := fixedAllocate_eq_some (fence := 0) hk o2 o3 hs hroom
  simp only [Nat.add_zero] at hiff
  have hao := alignOff_spec s.j.top k hk (Nat.lt_of_le_of_lt o2 o3)
  rw [allocStep_eq]
  cases hfa : fixedAllocate s.j.top s.j.end_ size (2 ^ k) 0 with
  | none =>
    have hno : ¬ (alignOff s.j.top (2 ^ k) + size ≤ s.j.end_ - s.j.top) := fun hfit =>
      nomatch hfa.symm.trans ((hiff _ _).2 ⟨Nat.ne_of_gt (Nat.lt_of_lt_of_le o4 o1), rfl, rfl,
        Nat.add_assoc .. ▸ Nat.add_le_of_le_sub' o2 hfit⟩)
    refine ⟨nofun, fun _ _ h => ?_, fun h => absurd h hno⟩
    cases h
    exact ⟨rfl, rfl, hno⟩
  | some pc =>
    obtain ⟨p, c⟩ := pc
    obtain ⟨_, rfl, rfl, hle⟩ := (hiff p c).1 hfa
    refine ⟨fun _ _ h => ?_, nofun, fun _ => ⟨_, _, rfl⟩⟩
    cases h
    have hup : s.j.top ≤ s.j.top + alignOff s.j.top (2 ^ k) + size :=
      Nat.le_trans (Nat.le_add_right _ _) (Nat.le_add_right _ _)
    have hdisj : ∀ r ∈ s.live, disjoint (s.j.top + alignOff s.j.top (2 ^ k), size) r := fun r hr =>
      .inr (Nat.le_trans (hin r hr).2.1 (Nat.le_add_right _ _))
    refine ⟨hao.1, Nat.le_add_right _ _, rfl, hle, rfl, rfl, hdisj, ⟨Nat.le_trans o1 hup, hle, o3, o4⟩, fun r hr => ?_,
      hdj.cons hdisj⟩
    rcases List.mem_cons.mp hr with rfl | hr
    · exact ⟨Nat.le_trans o1 (Nat.le_add_right _ _), Nat.le_refl _, hs0⟩
    · exact ⟨(hin r hr).1, Nat.le_trans (hin r hr).2.1 hup, (hin r hr).2.2⟩

/-- releasing a live piece keeps the invariant (only the most recent piece moves the top back) -/
theorem C11_deallocate (s : JState) (hI : Inv s) (r : Nat × Nat) (hr : r ∈ s.live) : Inv (deallocStep s r) := by
  obtain ⟨⟨o1, o2, o3, o4⟩, hin, hdj⟩ := hI
  have hsub : ∀ x ∈ s.live.erase r, x ∈ s.live := fun x hx => List.mem_of_mem_erase hx
  have hdj' : (s.live.erase r).Pairwise disjoint := hdj.sublist List.erase_sublist
  -- non-empty pairwise disjoint pieces are distinct, so `r` is gone after erasing it
  have hnd : s.live.Nodup := hdj.imp_of_mem fun {a b} ha _ hd hab => by
    subst hab
    have := (hin a ha).2.2
    rcases hd with h | h <;> omega
  unfold deallocStep Joint.deallocate
  by_cases htop : r.1 + r.2 = s.j.top
  · rw [if_pos htop]
    have hrin := hin r hr
    refine ⟨⟨hrin.1, Nat.le_trans (Nat.le_add_right _ _) (htop ▸ o2), o3, o4⟩, fun x hx => ?_, hdj'⟩
    have hxin := hin x (hsub x hx)
    refine ⟨hxin.1, ?_, hxin.2.2⟩
    -- `x` lies apart from `r`, which ends at the old top: so `x` ends at or below `r`'s start
    rcases hdj.eq_or_rel Or.symm (hsub x hx) hr with rfl | hd | hd
    · exact absurd rfl (hnd.mem_erase_iff.mp hx).1
    · exact hd
    · -- `x` would start at or above the old top, yet it is not empty and ends at or below it
      exact absurd (Nat.lt_of_lt_of_le (Nat.lt_add_of_pos_right hxin.2.2) hxin.2.1) (Nat.not_lt.2 (htop ▸ hd))
  · rw [if_neg htop]
    exact ⟨⟨o1, o2, o3, o4⟩, fun x hx => hin x (hsub x hx), hdj'⟩

/-- **Freed whole**: whatever the members allocate and give back, the block boundaries never move, so `reset()` releases
exactly `sizeof(T) + additional_size` bytes — the size the block was obtained with (every history, every size including
0 and exact fit). -/
theorem C11_release_whole (obj objSize extra : Nat) (h : obj + objSize + extra < 2 ^ 64) (ops : List JOp) :
    ((Joint.create obj objSize extra).run ops).releaseSize objSize = objSize + extra := by
  have key : ∀ (ops : List JOp) (j : Joint), (j.run ops).mem = j.mem ∧ (j.run ops).end_ = j.end_ := by
    intro ops
    induction ops with
    | nil => intro j; exact ⟨rfl, rfl⟩
    | cons op ops ih =>
      intro j
      have hstep : (j.step op).1.mem = j.mem ∧ (j.step op).1.end_ = j.end_ := by
        cases op with
        | alloc s a =>
          simp only [Joint.step, Joint.allocate]
          split <;> exact ⟨rfl, rfl⟩
        | dealloc p s =>
          simp only [Joint.step, Joint.deallocate]
          split <;> exact ⟨rfl, rfl⟩
      have := ih (j.step op).1
      simp only [Joint.run]
      exact ⟨this.1.trans hstep.1, this.2.trans hstep.2⟩
  obtain ⟨h1, h2⟩ := key ops (Joint.create obj objSize extra)
  unfold Joint.releaseSize Joint.capacity
  rw [h1, h2]
  simp only [Joint.create]
  rw [sub64_eq (Nat.le_add_right _ _) h, Nat.add_sub_cancel_left]

/-- `bump` never overruns: a bump that does not fit fails and one that fits moves the top by exactly `off` -/
theorem C11_bump (j : Joint) (off : Nat) (ho : j.top ≤ j.end_) (he : j.end_ < 2 ^ 64) :
    (∀ j', j.bump off = some j' → j'.top = j.top + off ∧ j'.top ≤ j.end_ ∧ j'.mem = j.mem ∧ j'.end_ = j.end_) ∧
    (j.bump off = none ↔ j.end_ - j.top < off) := by
  unfold Joint.bump
  rw [sub64_eq ho he]
  by_cases h : off > j.end_ - j.top
  · rw [if_pos h]
    exact ⟨nofun, fun _ => h, fun _ => rfl⟩
  · rw [if_neg h]
    refine ⟨fun j' hj => ?_, nofun, fun h' => absurd h' h⟩
    cases hj
    exact ⟨rfl, Nat.add_le_of_le_sub' ho (Nat.le_of_not_gt h), rfl, rfl⟩

/-- non-vacuity: an object of 40 bytes at 4096 with 64 extra bytes; 3 pieces with mixed alignment, exact fit, overflow -/
example :
    let j := Joint.create 4096 40 64
    let r1 := j.allocate 5 1
    let r2 := r1.1.allocate 16 16
    let r3 := r2.1.allocate 32 8
    let r4 := r3.1.allocate 1 1
    r1.2 = .ok 4136 ∧ r2.2 = .ok 4144 ∧ r3.2 = .ok 4160 ∧ r3.1.capacityLeft = 8 ∧
    (r3.1.allocate 8 8).2 = .ok 4192 ∧ (r3.1.allocate 9 1).2 = .throws .oofm ∧ r4.2 = .ok 4192 ∧
    r4.1.releaseSize 40 = 104 := by decide

end MemVerif.Props.C11
