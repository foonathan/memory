import MemVerif.Props.C01Ord
import MemVerif.Props.C19
/-!
# C02 — `memory_pool` over either intrusive free list: what is returned is aligned, sized and contiguous

For the two intrusive lists (`hint : o` is not the small list; the small node pool's grid is the chunk grid, see
`C01Ord.C01_smallpool_list_wellformed_partial`): by the pool invariant's **conservation** clause (`PInvG.conserve`) the
free cells together with the cells of the live allocations are, as a multiset, exactly the cells the blocks in use were
cut into: `usable size / node size` cells from the start of each block's usable part. Hence every live address sits on the
node grid of one of the pool's blocks — after any amount of growth, for nodes and for arrays, whatever the order of
releases in between (the ordered list re-sorts, the unordered list permutes: neither can move a cell off the grid).

From the grid: alignment (`alignment_for(node_size)` divides the node size and `max_alignment`, block starts are
`max_alignment`-aligned by the environment assumption, the arena's header is `max_alignment` bytes), size (a node
request gets one whole cell, an array of `n` nodes gets `n` consecutive cells inside one block) and the position of
array element `i` at `base + i * node_size`.
-/
namespace MemVerif.Props.C02Pool
open MemVerif.Model MemVerif.Props.C01Ord MemVerif.Gen

theorem live_mem_cellsOfBlocks {ns : Nat} {o : AnyList.ListObj} {p : Pool} {live : List (Nat × Nat)} (h : PInvG ns o p live)
    {ab : Nat × Nat} (hab : ab ∈ live) : ab.1 ∈ cellsOfBlocks p.list p.arena.used :=
  h.conserve.subset (List.mem_append_right _ (List.mem_flatMap.mpr
    ⟨ab, hab, mem_blockNodes.mpr ⟨0, cellsOf_pos ns ab.2 h.cell.nsPos, by rw [Nat.zero_mul, Nat.add_zero]⟩⟩))

/-- **Every live allocation sits on the node grid of a block in use**, with all its cells inside that block:
`a = block + 16 + j * node_size`. -/
theorem C02_ipool_on_grid_partial (cfg : Cfg) (e : EnvS) (ns : Nat) (o : AnyList.ListObj) (g : GPool) (k : Nat)
    (ops : List POp) (hI : GInvG ns o g) (hfit : ∀ op ∈ ops, op.Fits ns) (hint : ∀ P, o ≠ .small P)
    (henv : EnvOkG o (g.run cfg e k ops).1.p.arena.used) :
    ∀ ab ∈ (g.run cfg e k ops).1.live, ∃ b ∈ (g.run cfg e k ops).1.p.arena.used, ∃ j,
      ab.1 = b.base + implOff + j * ns ∧ ab.1 + cellsOf ns ab.2 * ns ≤ b.base + b.size ∧ ab.2 ≤ cellsOf ns ab.2 * ns := by
  intro ab hab
  have h := GPool.run_invG cfg e ops g k hI hfit henv
  -- the first cell of the allocation is one of the blocks' cells
  have hm' := live_mem_cellsOfBlocks h hab
  rw [cellsOfBlocks_intrusive (fun P => h.objEq ▸ hint P), h.nsEq] at hm'
  obtain ⟨b, hb, hin⟩ := List.mem_flatMap.mp hm'
  obtain ⟨j, _, hj⟩ := mem_blockNodes.mp hin
  -- and the whole allocation lies in one block: the same one, since it starts with that cell
  obtain ⟨b', hb', hi'⟩ := h.cell.liveIn ab hab
  have hi : InBlk b ab.1 ns :=
    (inBlk_iff_usable (h.cell.blocks.1 b hb)).mpr (blockNodes_div_bounds hin)
  obtain rfl := h.cell.blocks.same_block hb hb' hi hi' (Nat.le_add_right _ _) (Nat.le_add_right _ _)
  exact ⟨b, hb, j, by rw [hj]; rfl, hi'.2, le_cellsOf_mul ns ab.2 h.cell.nsPos⟩

/-- **Alignment after any amount of growth.** If every block the block source handed out starts at a
`max_alignment`-aligned address (what `malloc`/`new`/`mmap` and the library's own block allocators give), every live
allocation of a pool over an intrusive list is aligned to `alignment_for(node_size)` — the alignment the pool's traits
accept (`max_alignment(state)`), for nodes and arrays, in every block. -/
theorem C02_ipool_aligned_partial (cfg : Cfg) (e : EnvS) (ns : Nat) (o : AnyList.ListObj) (g : GPool) (k : Nat)
    (ops : List POp) (hI : GInvG ns o g) (hfit : ∀ op ∈ ops, op.Fits ns) (hlt : ns < 2 ^ 64) (hint : ∀ P, o ≠ .small P)
    (henv : EnvOkG o (g.run cfg e k ops).1.p.arena.used)
    (halign : ∀ b ∈ (g.run cfg e k ops).1.p.arena.used, 16 ∣ b.base) :
    ∀ ab ∈ (g.run cfg e k ops).1.live, (alignmentFor (BitVec.ofNat 64 ns)).toNat ∣ ab.1 := by
  intro ab hab
  have h := GPool.run_invG cfg e ops g k hI hfit henv
  obtain ⟨b, hb, j, hj, _, _⟩ := C02_ipool_on_grid_partial cfg e ns o g k ops hI hfit hint henv ab hab
  obtain ⟨d1, d2⟩ := C19.alignmentFor_dvd ns h.cell.nsPos hlt
  rw [hj, implOff_eq]
  exact Nat.dvd_add (Nat.dvd_add (Nat.dvd_trans d2 (halign b hb)) d2) (Nat.dvd_mul_left_of_dvd d1 j)

/-- **Arrays are contiguous and whole**: a live array obtained by `allocate_array(n)` (`n * node_size` bytes in the
ledger) occupies exactly `n` consecutive cells of one block, so element `i` (`i < n`) is the cell at
`base + i * node_size`, inside the block, and distinct live allocations never share a cell (C01). -/
theorem C02_ipool_array_elements_partial (cfg : Cfg) (e : EnvS) (ns : Nat) (o : AnyList.ListObj) (g : GPool) (k : Nat)
    (ops : List POp) (hI : GInvG ns o g) (hfit : ∀ op ∈ ops, op.Fits ns) (hint : ∀ P, o ≠ .small P)
    (henv : EnvOkG o (g.run cfg e k ops).1.p.arena.used) (a n : Nat) (hn : 0 < n)
    (hab : (a, n * ns) ∈ (g.run cfg e k ops).1.live) :
    ∃ b ∈ (g.run cfg e k ops).1.p.arena.used, ∀ i, i < n →
      b.base + implOff ≤ a + i * ns ∧ a + i * ns + ns ≤ b.base + b.size := by
  have h := GPool.run_invG cfg e ops g k hI hfit henv
  obtain ⟨b, hb, j, hj, hend, _⟩ := C02_ipool_on_grid_partial cfg e ns o g k ops hI hfit hint henv (a, n * ns) hab
  refine ⟨b, hb, ?_⟩
  intro i hi
  simp only at hj hend
  rw [cellsOf_mul ns n h.cell.nsPos hn] at hend
  -- element `i` starts at or after the first cell and ends within the `n` cells
  have hle : i * ns + ns ≤ n * ns := Nat.succ_mul i ns ▸ Nat.mul_le_mul_right ns hi
  exact ⟨hj ▸ Nat.le_trans (Nat.le_add_right _ _) (Nat.le_add_right _ _),
    Nat.le_trans (Nat.add_assoc a _ _ ▸ Nat.add_le_add_left hle a) hend⟩

theorem smallBlockCells_form (ns : Nat) (b : Blk) (x : Nat) (hx : x ∈ smallBlockCells ns b) :
    ∃ i idx, x = b.usable.base + i * smallStride ns + chunkOff + idx * ns := by
  obtain ⟨n, tot, hfam, _⟩ := smallInsertChunks_family ns b.usable.base b.usable.size
  unfold smallBlockCells at hx
  rw [hfam] at hx
  obtain ⟨c, hc, hxc⟩ := List.mem_flatMap.mp hx
  obtain ⟨i, _, rfl⟩ := List.mem_map.mp hc
  obtain ⟨idx, _, rfl⟩ := List.mem_map.mp hxc
  exact ⟨i, idx, rfl⟩

theorem alignmentFor_dvd_stride (ns : Nat) (h0 : 0 < ns) (hlt : ns < 2 ^ 32) :
    (alignmentFor (BitVec.ofNat 64 ns)).toNat ∣ smallStride ns := by
  obtain ⟨d1, d2⟩ := C19.alignmentFor_dvd ns h0 (by omega)
  rw [smallStride_eq ns (by omega)]
  generalize (alignmentFor (BitVec.ofNat 64 ns)).toNat = A at d1 d2
  -- `A` divides 16 and `ns`: it divides 8, as the stride does, or it is 16
  have hA : A ∣ 8 ∨ A = 16 := by
    have key : ∀ a, a ≤ 16 → a ∣ 16 → a ∣ 8 ∨ a = 16 := by decide
    exact key A (Nat.le_of_dvd (by decide) d2) d2
  rcases hA with h8 | rfl
  · exact Nat.dvd_trans h8 (Nat.dvd_mul_left 8 _)
  · -- `16 ∣ ns`: the unpadded chunk size is already a multiple of 16
    obtain ⟨q, rfl⟩ := d1
    exact ⟨2 + 255 * q, by omega⟩

/-- **Small node pool: every live node is aligned for the pool's alignment**, in every chunk of every block (the
chunk stride and the chunk header both keep `alignment_for(node_size)`), for all histories. -/
theorem C02_smallpool_aligned_partial (cfg : Cfg) (e : EnvS) (ns P : Nat) (g : GPool) (k : Nat)
    (ops : List POp) (hI : GInvG ns (.small P) g) (hfit : ∀ op ∈ ops, op.Fits ns) (hlt : ns < 2 ^ 32)
    (henv : EnvOkG (.small P) (g.run cfg e k ops).1.p.arena.used)
    (halign : ∀ b ∈ (g.run cfg e k ops).1.p.arena.used, 16 ∣ b.base) :
    ∀ ab ∈ (g.run cfg e k ops).1.live, (alignmentFor (BitVec.ofNat 64 ns)).toNat ∣ ab.1 := by
  intro ab hab
  have h := GPool.run_invG cfg e ops g k hI hfit henv
  have hnsP := h.cell.nsPos
  obtain ⟨b, hb, hin⟩ := List.mem_flatMap.mp (live_mem_cellsOfBlocks h hab)
  rw [AnyList.blockCells_eq, h.objEq, h.nsEq] at hin
  obtain ⟨i, idx, hx⟩ := smallBlockCells_form ns b ab.1 hin
  obtain ⟨d1, d2⟩ := C19.alignmentFor_dvd ns hnsP (by omega)
  have d3 := alignmentFor_dvd_stride ns hnsP hlt
  rw [hx]
  have hub : b.usable.base = b.base + 16 := Blk.usable_base b.base b.size
  rw [hub, chunkOff_eq]
  have h16 : (alignmentFor (BitVec.ofNat 64 ns)).toNat ∣ b.base + 16 := Nat.dvd_add (Nat.dvd_trans d2 (halign b hb)) d2
  have h32 : (alignmentFor (BitVec.ofNat 64 ns)).toNat ∣ 32 := Nat.dvd_trans d2 (by decide)
  exact Nat.dvd_add (Nat.dvd_add (Nat.dvd_add h16 (Nat.dvd_mul_left_of_dvd d3 i)) h32) (Nat.dvd_mul_left_of_dvd d1 idx)

/-- an ordered pool with 24-byte nodes on two 16-aligned blocks: after growth, array and node allocations and an
out-of-order release every live address is 8-aligned (`alignment_for 24 = 8`) -/
example :
    let cfg : Cfg := { fence := 8, dblDealloc := true, assert := true }
    let e : EnvS := fun k => if k = 0 then some 4096 else if k = 1 then some 1024 else none
    let ops : List POp := [.allocNode, .allocArray 2, .allocNode, .dealloc 1, .allocArray 3, .allocNode]
    let c := Pool.create cfg (.growing 2 1 112) (.ord (OrdList.new 24 64 72)) true [e 0]
    let g := ((⟨c.st, []⟩ : GPool).run cfg e 1 ops).1
    EnvOkG (.ordered 64) g.p.arena.used ∧ (∀ b ∈ g.p.arena.used, 16 ∣ b.base) ∧ g.p.arena.used.length = 2 ∧
      (alignmentFor (BitVec.ofNat 64 24)).toNat = 8 ∧ g.live.length = 4 ∧ ∀ ab ∈ g.live, 8 ∣ ab.1 := by
  decide +kernel

end MemVerif.Props.C02Pool
