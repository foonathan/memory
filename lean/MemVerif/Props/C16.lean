import MemVerif.Lemmas.OrdNode
import MemVerif.Lemmas.SmallRing
import MemVerif.Lemmas.Unwind
/-!
# C16 — invalid releases that the debug checks cover are reported, valid ones never are

Statements over the L1 models of the ordered list (`find_pos` / `find_pos_interval` with the proxies as addresses), the
small list (`find_chunk_impl` ring search + the three checks of `deallocate`), `memory_stack::unwind` and the LIFO-only
block sources. For the two lists an outcome `.handler k` carries **no new state**: the list is unchanged when a handler
fires, which is the "before allocator state is changed" half of the property (the harness checks the same on the real
code: the state dump taken inside the handler must equal the one taken before the call). `MemStack.unwindEv` returns a
state with every outcome: like the real `unwind`, it has released the blocks above the marker's when its last check fires.

`"invalid_pointer"` = the invalid-pointer handler, `"unreachable"`/`"assert"` = the program is stopped by `abort()`.
-/
namespace MemVerif.Props.C16
open MemVerif.Model

/-- helpers for the non-vacuity examples -/
def _root_.MemVerif.Model.ListRes.isOk {α : Type} : ListRes α → Bool
  | .ok _ => true
  | _ => false
def _root_.MemVerif.Model.ListRes.nodes? : ListRes OrdList → Option (List Nat)
  | .ok l => some l.nodes
  | _ => none

/-! The ordered free list serves `array_pool` always, `node_pool` in debug configurations. -/

/-- **Double release is stopped** (every list state satisfying the invariant, every node of the list — first, last,
most recently freed, middle —, double-free checking on): `deallocate` never inserts; the invalid-pointer handler is
called, or the search ends in the unreachable path, or (assertions on) the precondition assertion of the interval search
stops the program; no state is produced. -/
theorem C16_ordered_double_stops (cfg : Cfg) (hd : cfg.dblDealloc = true) (l : OrdList) (hI : l.Inv) (m : Nat)
    (hm : m ∈ l.nodes) :
    l.deallocate cfg m = .handler "invalid_pointer" ∨ l.deallocate cfg m = .handler "unreachable" ∨
      l.deallocate cfg m = .handler "assert" := by
  unfold OrdList.deallocate
  rw [hd]
  split
  · exact Or.inr (Or.inr rfl)
  · rcases findPos_double l hI m hm with h | h <;> simp [h]

/-- **Valid releases are never reported**, in every configuration: an address that is not on the list (and does not
overlap the proxy words) is inserted in address order. -/
theorem C16_ordered_valid_never_reported (cfg : Cfg) (l : OrdList) (hI : l.Inv) (m : Nat) (hm : m ∉ l.nodes)
    (hmB : m + l.ns ≤ l.B ∨ l.E + 8 ≤ m) (hm0 : 0 < m) :
    ∃ l', l.deallocate cfg m = .ok l' ∧ l'.nodes = insertAsc m l.nodes ∧ l'.Inv := by
  obtain ⟨l', h, hn, _, _, hI', _⟩ := OrdList.deallocate_valid cfg l hI m hm hmB hm0
  exact ⟨l', h, hn, hI'⟩

/-- non-vacuity: a three-node list with the cursor in the middle; double release of each node is stopped -/
example :
    let l : OrdList := { ns := 16, B := 8, E := 16, nodes := [1000, 1016, 1048], cap := 3, ld := 1016, ldp := 1000 }
    (l.deallocate { dblDealloc := true } 1000 = .handler "invalid_pointer") ∧
    (l.deallocate { dblDealloc := true } 1016 = .handler "unreachable") ∧
    (l.deallocate { dblDealloc := true } 1048 = .handler "invalid_pointer") ∧
    (l.deallocate { dblDealloc := true, assert := true } 1048 = .handler "assert") ∧
    ((l.deallocate { dblDealloc := true } 1032).nodes? = some [1000, 1016, 1032, 1048]) := by
  decide

/-- the node area of chunk `c` contains `p` -/
def InArea (l : SmallList) (c : Chunk) (p : Nat) : Prop :=
  c.base + chunkOff ≤ p ∧ p < c.base + chunkOff + c.noNodes * l.ns

/-- the chunk search terminates in every state and for every pointer (the repaired loop; before the repair a foreign
pointer released to a one-chunk list made the two cursors chase each other through the proxy forever) -/
theorem C16_small_search_terminates (l : SmallList) (p : Nat) : l.findChunk p ≠ .hang := by
  intro h
  have := findChunk_ok l p
  rwa [h] at this

/-- **A pointer that is not a node boundary of the list is reported** (pointer checking on): if in every chunk whose
node area contains `p` the offset of `p` is not a multiple of the node size — in particular if *no* chunk contains `p`:
outside every chunk, inside a chunk header, past the node area, in memory of another allocator — then `deallocate`
calls the invalid-pointer handler (or reaches the unreachable path) and produces no state. -/
theorem C16_small_invalid_reported (cfg : Cfg) (hp : cfg.ptrCheck = true) (l : SmallList) (p : Nat)
    (hbad : ∀ (i : Nat) (c : Chunk), l.chunks[i]? = some c → InArea l c p → (p - (c.base + chunkOff)) % l.ns ≠ 0) :
    l.deallocate cfg p = .handler "invalid_pointer" ∨ l.deallocate cfg p = .handler "unreachable" := by
  rcases l.deallocate_cases cfg p with e | e | ⟨i, c, hc, ha, e⟩
  · exact Or.inr e
  · rw [e, hp]
    exact Or.inl rfl
  · rw [e, hp, Bool.true_and, if_pos (decide_eq_true (hbad i c hc ha))]
    exact Or.inl rfl

/-- **Double release is reported** (pointer and double-free checking on): if in every chunk whose node area contains
`p` the node index of `p` is already on the chunk's free chain — whatever its position in the chain — `deallocate`
calls the handler and produces no state. -/
theorem C16_small_double_reported (cfg : Cfg) (hp : cfg.ptrCheck = true) (hd : cfg.dblDealloc = true)
    (l : SmallList) (p : Nat)
    (hdbl : ∀ (i : Nat) (c : Chunk), l.chunks[i]? = some c → InArea l c p → (p - (c.base + chunkOff)) / l.ns ∈ c.free) :
    l.deallocate cfg p = .handler "invalid_pointer" ∨ l.deallocate cfg p = .handler "unreachable" := by
  rcases l.deallocate_cases cfg p with e | e | ⟨i, c, hc, ha, e⟩
  · exact Or.inr e
  · rw [e, hp]
    exact Or.inl rfl
  · rw [e]
    simp only [hp, hd, Bool.true_and]
    rw [if_pos (List.contains_iff_mem.2 (hdbl i c hc ha))]
    exact Or.inl (ite_self _)

/-- **No release is ever accepted wrongly** (the converse reading): a `deallocate` that returns normally released a
node boundary inside a chunk of the list that was not free. -/
theorem C16_small_accepted_is_valid (cfg : Cfg) (hp : cfg.ptrCheck = true) (hd : cfg.dblDealloc = true)
    (l l' : SmallList) (p : Nat) (h : l.deallocate cfg p = .ok l') :
    ∃ (i : Nat) (c : Chunk), l.chunks[i]? = some c ∧ InArea l c p ∧ (p - (c.base + chunkOff)) / l.ns ∉ c.free := by
  obtain ⟨i, c, hc, ha, _, hnf⟩ := SmallList.deallocate_shape h
  exact ⟨i, c, hc, ha, hnf hp hd⟩

/-- **Valid releases are never reported** (small list, every configuration, every cursor position): a node boundary inside
the node area of a chunk, not on that chunk's free chain, is released normally — for every ring of chunks sorted by address
with disjoint extents (completeness of the two-cursor chunk search, `findChunk_complete`). -/
theorem C16_small_valid_never_reported (cfg : Cfg) (l : SmallList) (hR : SmallRing l) (i : Nat) (c : Chunk) (p : Nat)
    (hc : l.chunks[i]? = some c) (harea : InArea l c p) (hbound : (p - (c.base + chunkOff)) % l.ns = 0)
    (hlive : (p - (c.base + chunkOff)) / l.ns ∉ c.free) :
    l.deallocate cfg p = .ok (l.deallocResult i c p) :=
  SmallList.deallocate_valid cfg hR hc harea hbound hlive

/-- the ring invariant is kept by every successful release (only a free chain and the cursor change) -/
theorem C16_small_ring_deallocate (l : SmallList) (hR : SmallRing l) (i : Nat) (c : Chunk) (p : Nat) (hc : l.chunks[i]? = some c) :
    SmallRing (l.deallocResult i c p) :=
  hR.deallocResult p hc

/-- non-vacuity: one chunk of 3 nodes (8 bytes each) at 1000 (node area from 1032), node 1 free, cursors on the proxy —
the state in which the unrepaired search did not terminate -/
example :
    let l : SmallList := { ns := 8, P := 8, chunks := [⟨1000, 3, 1, [1]⟩], cap := 1, allocChunk := 1000, deallocChunk := 8 }
    let cfg : Cfg := { ptrCheck := true, dblDealloc := true }
    l.deallocate cfg 5000 = .handler "invalid_pointer" ∧     -- foreign, above
    l.deallocate cfg 500 = .handler "invalid_pointer" ∧      -- foreign, below
    l.deallocate cfg 1008 = .handler "invalid_pointer" ∧     -- chunk header
    l.deallocate cfg 1056 = .handler "invalid_pointer" ∧     -- past the node area
    l.deallocate cfg 1035 = .handler "invalid_pointer" ∧     -- between node boundaries
    l.deallocate cfg 1040 = .handler "invalid_pointer" ∧     -- node 1: already free
    (l.deallocate cfg 1032).isOk = true := by                 -- node 0: valid
  decide

/-- **Unwinding to a marker above the current top is reported** (pointer checking on): a marker of the current block
with a higher top, or of a block the stack does not have (yet), makes `unwind` call the handler (with assertions on the
assertion stops the program first); the stack is unchanged and no block is released. -/
theorem C16_unwind_above_top_reported (cfg : Cfg) (hp : cfg.ptrCheck = true) (s : MemStack) (t m : Marker)
    (ht : s.top = some t) (habove : t.lt m = true) (hidx : t.index ≤ m.index) :
    ∃ k, s.unwindEv cfg m = (s, .handler k, []) := by
  obtain ⟨_, hti, htt, _⟩ := top_eq ht
  have hle : m.le t = false := by simp [Marker.le, habove]
  unfold MemStack.unwindEv
  simp only [ht, hle, hp, Bool.not_false, Bool.and_true, Bool.true_and]
  by_cases ha : cfg.assert = true
  · exact ⟨"assert", by rw [if_pos ha]⟩
  rw [if_neg ha]
  by_cases hi : m.index ≤ s.arena.used.length - 1
  · -- same block: the top is higher
    have hidx' : t.index = m.index := Nat.le_antisymm hidx (hti ▸ hi)
    have hlt : s.cur < m.top :=
      htt ▸ ((Marker.lt_iff t m).1 habove).elim (fun h => absurd hidx' (Nat.ne_of_lt h)) (·.2)
    have hk : sub64 (s.arena.used.length - 1) m.index = 0 := by
      rw [← hti, hidx']; simp [sub64]
    exact ⟨"invalid_pointer", by simp [hi, hk, Nat.not_le.2 hlt]⟩
  · exact ⟨"invalid_pointer", by simp [hi]⟩

/-- **A marker at or below the top in the current block is never reported** (no false report) -/
theorem C16_unwind_valid_same_block (cfg : Cfg) (s : MemStack) (t m : Marker) (ht : s.top = some t)
    (hidx : m.index = t.index) (hle : m.top ≤ t.top) :
    s.unwindEv cfg m = ({ s with cur := m.top }, .done, []) := by
  obtain ⟨_, hti, htt, _⟩ := top_eq ht
  have h1 : m.index ≤ s.arena.used.length - 1 := Nat.le_of_eq (hidx.trans hti)
  have h2 : s.cur ≥ m.top := htt ▸ hle
  have hk : sub64 (s.arena.used.length - 1) m.index = 0 := by
    rw [hidx, hti]; simp [sub64]
  unfold MemStack.unwindEv
  simp [ht, (Marker.le_iff m t).2 (Or.inr ⟨hidx, hle⟩), h1, hk, h2]

/-- `static_block_allocator` (and `virtual_block_allocator`, same check on `cur_`): a block that is not the most
recently allocated one is reported; the most recently allocated one never is -/
theorem C16_lifo_static (cfg : Cfg) (hp : cfg.ptrCheck = true) (c e b : Nat) (blk : Blk) :
    ((Src.static_ c e b).deallocateBlock cfg blk).2.2 =
      if blk.base + blk.size ≠ c then some "invalid_pointer" else none := by
  simp [Src.deallocateBlock, hp]

/-- `fixed_block_allocator`: returning a block while none is outstanding is reported; returning the outstanding one
never is -/
theorem C16_lifo_fixed (cfg : Cfg) (hp : cfg.ptrCheck = true) (b : Nat) (blk : Blk) :
    ((Src.fixed b).deallocateBlock cfg blk).2.2 = if b ≠ 0 then some "invalid_pointer" else none := by
  simp [Src.deallocateBlock, hp]

/-- a block source is never asked to report when pointer checking is off -/
theorem C16_lifo_unchecked (cfg : Cfg) (hp : cfg.ptrCheck = false) (s : Src) (blk : Blk) :
    (s.deallocateBlock cfg blk).2.2 = none := by
  cases s <;> simp [Src.deallocateBlock, hp]

/-- LIFO use of the static source is never reported: the block just handed out goes back without a report -/
theorem C16_lifo_static_valid (cfg : Cfg) (c e b : Nat) (s' : Src) (blk : Blk) (ev : List UpEv)
    (env env' : List (Option Nat)) (h : (Src.static_ c e b).allocateBlock env = .ok s' blk ev env') :
    (s'.deallocateBlock cfg blk).2.2 = none := by
  unfold Src.allocateBlock at h
  simp only at h
  split at h
  · exact absurd h (by simp)
  · simp only [SrcRes.ok.injEq] at h
    obtain ⟨rfl, rfl, _, _⟩ := h
    simp [Src.deallocateBlock]

end MemVerif.Props.C16
