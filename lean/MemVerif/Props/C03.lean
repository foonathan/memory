import MemVerif.Model.Pool
import MemVerif.Lemmas.StackAlloc
import MemVerif.Lemmas.Iter
/-!
# C03 — allocation failure is always signalled, never returned as null or absorbed

Statements over the executable models of `static_allocator`, `memory_stack`, `iteration_allocator`, `memory_pool`,
`memory_pool_collection` (every list type, every block source, every configuration, every upstream environment —
an upstream failure is an environment answering `none`).
`Out` = `ok addr | null | throws e | …`; `crash`/`handler`/`envMissing` are model outcomes for contract violations
and never occur on the traces validated against the implementation.
-/
namespace MemVerif.Props.C03
open MemVerif.Model

/-! ### the `try_` functions never throw and never grow the allocator -/

theorem C03_try_stack (cfg : Cfg) (s : MemStack) (size align : Nat) :
    (∀ e, (s.tryAllocate cfg size align).2 ≠ .throws e) ∧ (s.tryAllocate cfg size align).1.arena = s.arena := by
  obtain ⟨fs, h, -⟩ := MemStack.tryAllocate_shape cfg s size align
  generalize s.tryAllocate cfg size align = res at h
  cases h <;> exact ⟨nofun, rfl⟩

theorem C03_try_iter (cfg : Cfg) (it : Iter) (size align : Nat) :
    (∀ e, (it.tryAllocate cfg size align).2 ≠ .throws e) ∧ (it.tryAllocate cfg size align).1.src = it.src ∧
      (it.tryAllocate cfg size align).1.block = it.block := by
  rcases it.tryAllocate_cases cfg size align with ⟨_, hr⟩ | ⟨p, c, _, hr⟩
  · rw [hr]
    exact ⟨nofun, rfl, rfl⟩
  · rw [hr]
    exact ⟨nofun, rfl, rfl⟩

theorem C03_try_pool_node (p : Pool) :
    (∀ e, p.tryAllocateNode.out ≠ .throws e) ∧ p.tryAllocateNode.ev = [] ∧ p.tryAllocateNode.st.arena = p.arena := by
  unfold Pool.tryAllocateNode
  split
  · exact ⟨nofun, rfl, rfl⟩
  · split
    · exact ⟨nofun, rfl, rfl⟩
    · exact ⟨nofun, rfl, rfl⟩

theorem C03_try_pool_array (p : Pool) (bytes : Nat) :
    (∀ e, (p.tryAllocateArrayBytes bytes).out ≠ .throws e) ∧ (p.tryAllocateArrayBytes bytes).ev = [] ∧
      (p.tryAllocateArrayBytes bytes).st.arena = p.arena := by
  unfold Pool.tryAllocateArrayBytes
  split
  · exact ⟨nofun, rfl, rfl⟩
  · split
    · exact ⟨nofun, rfl, rfl⟩
    · exact ⟨nofun, rfl, rfl⟩
    · exact ⟨nofun, rfl, rfl⟩

theorem insertRest_arena {cfg : Cfg} {c c' : Coll} {i : Nat} (h : c.insertRest cfg i = some c') : c'.arena = c.arena := by
  unfold Coll.insertRest at h
  simp only at h
  split at h
  · split at h
    · cases h; rfl
    · split at h
      · split at h
        · cases h; rfl
        · cases h
      · cases h; rfl
  · cases h

theorem tryReserve_arena {cfg : Cfg} {c c' : Coll} {i cap : Nat} (h : c.tryReserve cfg i cap = some c') : c'.arena = c.arena := by
  unfold Coll.tryReserve at h
  split at h
  · split at h
    · exact insertRest_arena h
    · split at h
      · cases h; rfl
      · cases h
  · cases h

/-- whichever way `c1` was obtained in `try_allocate_node`/`try_allocate_array`, the arena is the original one -/
theorem tryStep_arena {cfg : Cfg} {c c1 : Coll} {b : Bool} {i dc : Nat}
    (h : (if b = true then c.tryReserve cfg i dc else some c) = some c1) : c1.arena = c.arena := by
  split at h
  · exact tryReserve_arena h
  · cases h; rfl

/-- what the `try_` functions of a collection answer: no exception, no upstream call, the arena is `a` -/
def Quiet (a : Arena) (r : PRes Coll) : Prop :=
  (∀ e, r.out ≠ .throws e) ∧ r.ev = [] ∧ r.st.arena = a

theorem C03_try_coll_node (cfg : Cfg) (c : Coll) (size : Nat) :
    (∀ e, (c.tryAllocateNode cfg size).out ≠ .throws e) ∧ (c.tryAllocateNode cfg size).ev = [] ∧
      (c.tryAllocateNode cfg size).st.arena = c.arena := by
  show Quiet c.arena (c.tryAllocateNode cfg size)
  unfold Coll.tryAllocateNode
  refine ite_ind (fun _ => ⟨nofun, rfl, rfl⟩) fun _ => ?_
  dsimp only
  split
  · split
    · exact ⟨nofun, rfl, rfl⟩
    · rename_i c1 hc1
      have hA : c1.arena = c.arena := tryStep_arena hc1
      split
      · refine ite_ind (fun _ => ⟨nofun, rfl, hA⟩) fun _ => ?_
        split
        · exact ⟨nofun, rfl, hA⟩
        · exact ⟨nofun, rfl, hA⟩
      · exact ⟨nofun, rfl, hA⟩
  · exact ⟨nofun, rfl, rfl⟩

theorem C03_try_coll_array (cfg : Cfg) (c : Coll) (count size : Nat) :
    (∀ e, (c.tryAllocateArray cfg count size).out ≠ .throws e) ∧ (c.tryAllocateArray cfg count size).ev = [] ∧
      (c.tryAllocateArray cfg count size).st.arena = c.arena := by
  show Quiet c.arena (c.tryAllocateArray cfg count size)
  unfold Coll.tryAllocateArray
  refine ite_ind (fun _ => ⟨nofun, rfl, rfl⟩) fun _ => ?_
  dsimp only
  split
  · split
    · exact ⟨nofun, rfl, rfl⟩
    · rename_i c1 hc1
      have hA : c1.arena = c.arena := tryStep_arena hc1
      split
      · refine ite_ind (fun _ => ⟨nofun, rfl, hA⟩) fun _ => ?_
        split
        · exact ⟨nofun, rfl, hA⟩
        · exact ⟨nofun, rfl, hA⟩
        · exact ⟨nofun, rfl, hA⟩
      · exact ⟨nofun, rfl, hA⟩
  · exact ⟨nofun, rfl, rfl⟩

/-! ### the throwing functions never return null -/

theorem C03_stack_never_null (cfg : Cfg) (s : MemStack) (size align : Nat) (env : List (Option Nat)) :
    (s.allocate cfg size align env).2.1 ≠ .null := by
  obtain ⟨fs, h, -⟩ := MemStack.allocate_shape cfg s size align env
  generalize s.allocate cfg size align env = res at h
  cases h <;> nofun

theorem C03_static_never_null (cfg : Cfg) (s : Static) (size align : Nat) : (s.allocateNode cfg size align).2 ≠ .null := by
  unfold Static.allocateNode
  split <;> nofun

theorem C03_iter_never_null (cfg : Cfg) (it : Iter) (size align : Nat) : (it.allocate cfg size align).2 ≠ .null := by
  unfold Iter.allocate
  simp only
  split <;> nofun

theorem allocateBlock_not_null (cfg : Cfg) (p : Pool) (env : List (Option Nat)) : (p.allocateBlock cfg env).out ≠ .null := by
  unfold Pool.allocateBlock
  split
  · nofun
  · nofun
  · split <;> nofun

theorem C03_pool_node_never_null (cfg : Cfg) (p : Pool) (env : List (Option Nat)) : (p.allocateNode cfg env).out ≠ .null := by
  unfold Pool.allocateNode
  simp only
  split
  · split <;> nofun
  · split
    · exact allocateBlock_not_null cfg p env
    · nofun

theorem C03_pool_array_never_null (cfg : Cfg) (p : Pool) (bytes : Nat) (env : List (Option Nat)) :
    (p.allocateArrayBytes cfg bytes env).out ≠ .null := by
  unfold Pool.allocateArrayBytes
  simp only
  split
  · nofun
  · nofun
  · split
    · split <;> nofun
    · exact allocateBlock_not_null cfg p env

/-! ### a huge request is rejected, not wrapped (the D20 repair) -/

/-- Whatever the (64-bit) size, a request that does not fit between the top and the end is answered with null:
there is no size for which the bounds check wraps around. -/
theorem C03_oversize_rejected {cur end_ size k fence : Nat} (hk : k < 64) (hce : cur ≤ end_) (he : end_ < 2 ^ 64)
    (hs : size < 2 ^ 64) (hf : cur + fence + fence + 2 ^ k < 2 ^ 64) (hbig : end_ - cur < size) :
    fixedAllocate cur end_ size (2 ^ k) fence = none := by
  cases h : fixedAllocate cur end_ size (2 ^ k) fence with
  | none => rfl
  | some pc =>
    obtain ⟨_, h2, _, h4, h5⟩ := fixedAllocate_spec hk hce he hs hf h
    -- the served bytes lie between the old top and the end: `cur + size ≤ p + size ≤ c ≤ end_`
    have : cur + size ≤ end_ :=
      Nat.le_trans (Nat.add_le_add_right (Nat.le_of_add_right_le h2) _) (Nat.le_trans (Nat.le_add_right _ _) (h4 ▸ h5))
    exact absurd (Nat.le_sub_of_add_le' this) (Nat.not_le.2 hbig)

/-! ### a failed request leaves the allocator as it was -/

theorem C03_stack_failure_preserves (cfg : Cfg) (s s' : MemStack) (size align : Nat) (env : List (Option Nat)) (e : Exn)
    (ev : List UpEv) (hr : s.allocate cfg size align env = (s', .throws e, ev)) (hne : e ≠ .badSize) :
    s'.cur = s.cur ∧ s'.arena.used = s.arena.used ∧ s'.arena.cached = s.arena.cached ∧ s'.leak = s.leak := by
  obtain ⟨fs, h, -⟩ := MemStack.allocate_shape cfg s size align env
  rw [hr] at h
  cases h with
  | fail => exact ⟨rfl, rfl, rfl, rfl⟩
  | badSize => exact absurd rfl hne

theorem allocateBlock_throws (cfg : Cfg) (p : Pool) (env : List (Option Nat)) (e : Exn)
    (h : (p.allocateBlock cfg env).out = .throws e) :
    (p.allocateBlock cfg env).st.list = p.list ∧ (p.allocateBlock cfg env).st.arena.used = p.arena.used := by
  unfold Pool.allocateBlock at h ⊢
  cases hab : p.arena.allocateBlock env with
  | envMissing => simp only [hab] at h; cases h
  | fail a e' ev env' =>
    obtain ⟨rfl, _⟩ := Arena.allocateBlock_fail hab
    exact ⟨rfl, rfl⟩
  | ok a b ev env' =>
    simp only [hab] at h
    split at h <;> cases h

/-- a failed `allocate_node` of a pool (out_of_fixed_memory, or the upstream's exception) leaves the free list and the
blocks as they were -/
theorem C03_pool_failure_preserves (cfg : Cfg) (p : Pool) (env : List (Option Nat)) (e : Exn)
    (h : (p.allocateNode cfg env).out = .throws e) :
    (p.allocateNode cfg env).st.list = p.list ∧ (p.allocateNode cfg env).st.arena.used = p.arena.used := by
  unfold Pool.allocateNode at h ⊢
  dsimp only at h ⊢
  revert h
  split
  · -- a node was tried: the outcome is `ok` or `crash`
    intro h
    split at h <;> cases h
  · -- the result is that of `allocate_block`, which keeps list and blocks when it throws
    intro h
    by_cases he : p.list.empty = true
    · rw [if_pos he] at h ⊢
      exact allocateBlock_throws cfg p env e h
    · rw [if_neg he] at h
      cases h

end MemVerif.Props.C03
