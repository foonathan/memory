import MemVerif.Props.C09
/-!
# C18 — reported maxima of compositions are true upper bounds

`fallback_allocator`, the wrappers and the storages report `max_node_size()` / `max_alignment()` computed from their parts
(`Model.maxima`). That a request above the reported figure never succeeds is inherited from the leaves: if every leaf refuses
what lies above *its own* figures, then every composition without a `binary_segregator`, of any depth, through both interfaces
and for every behaviour of the leaves, refuses what lies above the figures *it* reports. `binary_segregator` reports its
fallback's figures only (documented: "it assumes that the fallback will be used for larger allocations"), and the statement is
false for it: counterexample below (finding D35).
-/
namespace MemVerif.Props.C18Compose
open MemVerif.Model MemVerif.Props.C09

/-- a leaf call that was served respects the figures leaf `c.leaf` reports -/
def LeafHonest (lm : Nat → Maxima) (c : LeafCall) : Prop :=
  c.ok = true → (c.req.arr = false → c.req.size ≤ (lm c.leaf).node) ∧ c.req.align ≤ (lm c.leaf).align

instance (lm : Nat → Maxima) (c : LeafCall) : Decidable (LeafHonest lm c) := by unfold LeafHonest; infer_instance

theorem maxima_ge_leaf (lm : Nat → Maxima) {e : AExpr} (hs : SegFree e) {i : Nat} (hi : i ∈ leaves e) :
    (lm i).node ≤ (maxima lm e).node ∧ (lm i).align ≤ (maxima lm e).align := by
  induction e with
  | leaf j ha => rw [List.mem_singleton.1 hi]; exact ⟨Nat.le_refl _, Nat.le_refl _⟩
  | aligned _ _ ih | tracked _ ih | storage _ ih | anyRef _ ih => exact ih hs hi
  | fallback d f ihd ihf =>
    rcases List.mem_append.1 hi with h | h
    · exact ⟨Nat.le_trans (ihd hs.1 h).1 (Nat.le_max_left ..), Nat.le_trans (ihd hs.1 h).2 (Nat.le_max_left ..)⟩
    · exact ⟨Nat.le_trans (ihf hs.2 h).1 (Nat.le_max_right ..), Nat.le_trans (ihf hs.2 h).2 (Nat.le_max_right ..)⟩
  | segregator => exact hs.elim

theorem C18_compose_node_bound (lm : Nat → Maxima) (e : AExpr) :
    ∀ (t : Bool) (r : Req) (ans : List Bool), SegFree e → Req.WF r → r.arr = false →
      (∀ c ∈ (route t e r ans).calls, LeafHonest lm c) → (route t e r ans).ok = true →
      r.size ≤ (maxima lm e).node ∧ r.align ≤ (maxima lm e).align := by
  intro t r ans hs hw harr hh hok
  obtain ⟨c, hc, hcok⟩ := served_call hok
  have hsee := route_sees e t r ans c hc
  obtain ⟨hb, ha, hn⟩ := hsee.forward hw
  obtain ⟨h1, h2⟩ := hh c hc hcok
  obtain ⟨m1, m2⟩ := maxima_ge_leaf lm hs hsee.leaf_mem
  rw [bytes_node harr, bytes_node (hn harr)] at hb
  exact ⟨Nat.le_trans hb (Nat.le_trans (h1 (hn harr)) m1), Nat.le_trans ha (Nat.le_trans h2 m2)⟩

/-- **Reported maxima are upper bounds** (contrapositive form the property uses): a node request whose size exceeds the
composition's `max_node_size()`, or whose alignment exceeds its `max_alignment()`, is never served. -/
theorem C18_compose_above_max_refused (lm : Nat → Maxima) (e : AExpr) (t : Bool) (r : Req) (ans : List Bool)
    (hs : SegFree e) (hw : Req.WF r) (harr : r.arr = false)
    (hh : ∀ c ∈ (route t e r ans).calls, LeafHonest lm c)
    (habove : (maxima lm e).node < r.size ∨ (maxima lm e).align < r.align) :
    (route t e r ans).ok = false :=
  Bool.eq_false_iff.2 fun hok =>
    have h := C18_compose_node_bound lm e t r ans hs hw harr hh hok
    habove.elim (Nat.not_lt.2 h.1) (Nat.not_lt.2 h.2)

/-- served leaf calls respect the leaf's array figure too -/
def LeafHonestA (lm : Nat → Maxima) (c : LeafCall) : Prop :=
  c.ok = true → (c.req.arr = false → c.req.size ≤ (lm c.leaf).node) ∧ (c.req.arr = true → c.req.bytes ≤ (lm c.leaf).array)

theorem maxima_node_le_array (lm : Nat → Maxima) (h : ∀ i, (lm i).node ≤ (lm i).array) (e : AExpr) :
    (maxima lm e).node ≤ (maxima lm e).array := by
  induction e with
  | leaf i ha =>
    cases ha
    · exact Nat.le_refl _
    · exact h i
  | aligned _ _ ih | tracked _ ih | storage _ ih | anyRef _ ih | segregator _ _ _ _ ih => exact ih
  | fallback d f ihd ihf =>
    exact Nat.max_le.2 ⟨Nat.le_trans ihd (Nat.le_max_left ..), Nat.le_trans ihf (Nat.le_max_right ..)⟩

/-- a leaf that is sent an array request has array members, so its array figure is among those the composition reports from -/
theorem sees_array_le (lm : Nat → Maxima) {e : AExpr} {r : Req} {c : LeafCall} (h : Sees e r c) (hs : SegFree e)
    (hc : c.req.arr = true) : (lm c.leaf).array ≤ (maxima lm e).array := by
  induction h with
  | leaf i ha r k ok =>
    have hha : ha = true := (Bool.and_eq_true_iff.1 ((leafReq_spec ha r).2.2.symm.trans hc)).2
    subst hha
    exact Nat.le_refl _
  | aligned _ ih | tracked _ ih | storage _ ih | anyRef _ ih => exact ih hs hc
  | fallbackD _ ih => exact Nat.le_trans (ih hs.1 hc) (Nat.le_max_left ..)
  | fallbackF _ ih => exact Nat.le_trans (ih hs.2 hc) (Nat.le_max_right ..)
  | segS | segF => exact hs.elim

/-- **Array requests**: what a composition without a segregator serves is at most `max_array_size()` bytes (array request) or
`max_node_size()` bytes (node request), provided no leaf reports a smaller array figure than node figure (the type-erased
reference sends an array of one element down the node path). -/
theorem C18_compose_array_bound (lm : Nat → Maxima) (hna : ∀ i, (lm i).node ≤ (lm i).array) (e : AExpr) :
    ∀ (t : Bool) (r : Req) (ans : List Bool), SegFree e → Req.WF r →
      (∀ c ∈ (route t e r ans).calls, LeafHonestA lm c) → (route t e r ans).ok = true →
      (r.arr = false → r.size ≤ (maxima lm e).node) ∧ (r.arr = true → r.bytes ≤ (maxima lm e).array) := by
  intro t r ans hs hw hh hok
  obtain ⟨c, hc, hcok⟩ := served_call hok
  have hsee := route_sees e t r ans c hc
  obtain ⟨hb, _, hn⟩ := hsee.forward hw
  obtain ⟨h1, h2⟩ := hh c hc hcok
  have m1 := (maxima_ge_leaf lm hs hsee.leaf_mem).1
  have hnode : c.req.arr = false → c.req.bytes ≤ (maxima lm e).node := fun h =>
    bytes_node h ▸ Nat.le_trans (h1 h) m1
  refine ⟨fun harr => ?_, fun _ => ?_⟩
  · rw [bytes_node harr] at hb
    exact Nat.le_trans hb (hnode (hn harr))
  · cases hca : c.req.arr
    · exact Nat.le_trans hb (Nat.le_trans (hnode hca) (maxima_node_le_array lm hna e))
    · exact Nat.le_trans hb (Nat.le_trans (h2 hca) (sees_array_le lm hsee hs hca))

/-- the reported figures are attained by a part: nothing larger than every leaf's figure is ever reported -/
theorem maxima_node_le_leaves (lm : Nat → Maxima) (B : Nat) (hB : ∀ i, (lm i).node ≤ B) (e : AExpr) : (maxima lm e).node ≤ B := by
  induction e with
  | leaf i ha => exact hB i
  | aligned _ _ ih | tracked _ ih | storage _ ih | anyRef _ ih | segregator _ _ _ _ ih => exact ih
  | fallback d f ihd ihf => exact Nat.max_le.2 ⟨ihd, ihf⟩

/-- non-vacuity: a two-level fallback over honest leaves, a request served by the second leaf -/
def exE : AExpr := .fallback (.fallback (.leaf 0 true) (.leaf 1 false)) (.leaf 2 true)
example : (route true exE (Req.node 60 8) [false, true]).ok = true ∧
    (∀ c ∈ (route true exE (Req.node 60 8) [false, true]).calls, LeafHonest harnessLeafMaxima c) ∧
    (maxima harnessLeafMaxima exE).node = 80 := by decide +kernel

/-- **Counterexample for `binary_segregator`** (finding D35): the segregatable part (leaf 0, honest: its own figure is 4096)
serves a request of 100 bytes, which lies above the figure 64 the segregator reports (its fallback's). -/
def segLm : Nat → Maxima := fun i => if i = 0 then ⟨4096, 4096, 16⟩ else ⟨64, 64, 16⟩
def segE : AExpr := .segregator 1024 (.leaf 0 true) (.leaf 1 true)
theorem C18_segregator_max_counterexample :
    (route true segE (Req.node 100 8) [true]).ok = true ∧
    (∀ c ∈ (route true segE (Req.node 100 8) [true]).calls, LeafHonest segLm c) ∧
    (maxima segLm segE).node = 64 ∧ 64 < 100 := by decide +kernel

end MemVerif.Props.C18Compose
