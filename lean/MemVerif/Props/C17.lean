import MemVerif.Model.Debug
/-!
# C17 — fences catch every overflow beside low-level allocations; fill patterns exact

Theorems over the byte-level model of `debug_fill_new` / `debug_fill_free` / `debug_is_filled` and of the low-level
allocators' layout `[fence | node | fence]` (fence = `max_alignment` for heap/malloc/new, one page for virtual memory,
0 when fences are disabled). All statements are for every node size, every fence size, every memory content — no bound.
-/
namespace MemVerif.Props.C17
open MemVerif.Model

theorem firstMismatch_eq_find (m : Bytes) (v : Nat) : ∀ (len off : Nat),
    firstMismatch m v off len = (List.range' off len).find? fun i => m i != v := by
  intro len
  induction len with
  | zero => intro off; rfl
  | succ len ih =>
    intro off
    rw [firstMismatch, List.range'_succ, List.find?_cons, ih]
    by_cases h : m off = v
    · rw [if_neg (not_not_intro h), h, bne_self_eq_false]
    · rw [if_pos h, bne_iff_ne.2 h]

theorem firstMismatch_none {m : Bytes} {v off len : Nat} :
    firstMismatch m v off len = none ↔ ∀ i, off ≤ i → i < off + len → m i = v := by
  rw [firstMismatch_eq_find, List.find?_range'_eq_none]
  simp only [Bool.not_eq_eq_eq_not, Bool.not_true, bne_eq_false_iff_eq]

theorem firstMismatch_some {m : Bytes} {v off len j : Nat} (h : firstMismatch m v off len = some j) :
    off ≤ j ∧ j < off + len ∧ m j ≠ v ∧ ∀ k, off ≤ k → k < j → m k = v := by
  rw [firstMismatch_eq_find, List.find?_range'_eq_some, List.mem_range'_1] at h
  obtain ⟨h1, ⟨h2, h3⟩, h4⟩ := h
  exact ⟨h2, h3, bne_iff_ne.1 h1, fun k a b => bne_eq_false_iff_eq.1 (Bool.not_eq_eq_eq_not.1 (h4 k a b))⟩

theorem firstMismatch_congr {m m' : Bytes} (v : Nat) : ∀ (len off : Nat), (∀ i, off ≤ i → i < off + len → m i = m' i) →
    firstMismatch m v off len = firstMismatch m' v off len := by
  intro len
  induction len with
  | zero => intro _ _; rfl
  | succ len ih =>
    intro off h
    unfold firstMismatch
    rw [h off (Nat.le_refl _) (Nat.lt_add_of_pos_right (Nat.succ_pos len)),
      ih (off + 1) fun i h1 h2 => h i (Nat.le_of_succ_le h1) (Nat.add_right_comm off 1 len ▸ h2)]

theorem fill_in (m : Bytes) {off len v i : Nat} (h1 : off ≤ i) (h2 : i < off + len) : fill m off len v i = v :=
  if_pos ⟨h1, h2⟩

theorem fill_out (m : Bytes) {off len v i : Nat} (h : i < off ∨ off + len ≤ i) : fill m off len v i = m i :=
  if_neg fun h' => h.elim (Nat.not_lt.2 h'.1) (Nat.not_le.2 h'.2)

/-- offset `i` of the raw block lies in the fence before the node -/
def InPre (fence i : Nat) : Prop := i < fence
/-- … in the fence after the node -/
def InPost (size fence i : Nat) : Prop := fence + size ≤ i ∧ i < fence + size + fence
def InFence (size fence i : Nat) : Prop := InPre fence i ∨ InPost size fence i

/-- `debug_fill_free` writes the node only, so the fences are checked as the user left them -/
theorem llFreeReports_eq (size fence : Nat) (m : Bytes) : llFreeReports size fence m =
    (firstMismatch m magicFence 0 fence).toList ++ (firstMismatch m magicFence (fence + size) fence).toList := by
  unfold llFreeReports fillFree
  simp only [Nat.sub_self]
  rw [firstMismatch_congr _ fence 0 fun i _ h => fill_out m (.inl (Nat.zero_add fence ▸ h)),
    firstMismatch_congr _ fence (fence + size) fun i h _ => fill_out m (.inr h)]

/-- **In-bounds writes are never reported**: if both fences still hold the fence pattern (whatever the node holds),
`deallocate_node` calls the overflow handler zero times. -/
theorem C17_inbounds_never_reported (size fence : Nat) (m : Bytes)
    (hclean : ∀ i, InFence size fence i → m i = magicFence) : llFreeReports size fence m = [] := by
  rw [llFreeReports_eq, firstMismatch_none.2 fun i _ h2 => hclean i (.inl (Nat.zero_add fence ▸ h2)),
    firstMismatch_none.2 fun i h1 h2 => hclean i (.inr ⟨h1, h2⟩)]
  rfl

/-- **Every write into a fence is reported, with the address of the first corrupted byte**: if some fence byte (at any
offset of either fence, any value different from the fence pattern) is dirty, the handler is called, and its first call
names the lowest dirty fence byte of the block (the fence before the node is checked first). -/
theorem C17_fence_any_write_reported (size fence : Nat) (m : Bytes) (i : Nat) (hi : InFence size fence i)
    (hd : m i ≠ magicFence) :
    ∃ j rest, llFreeReports size fence m = j :: rest ∧ InFence size fence j ∧ m j ≠ magicFence ∧ j ≤ i ∧
      ∀ k, k < j → InFence size fence k → m k = magicFence := by
  rw [llFreeReports_eq]
  cases hpre : firstMismatch m magicFence 0 fence with
  | some j =>
    obtain ⟨_, h2, h3, h4⟩ := firstMismatch_some hpre
    rw [Nat.zero_add] at h2
    refine ⟨j, _, rfl, .inl h2, h3, ?_, fun k hk _ => h4 k (Nat.zero_le _) hk⟩
    -- `i` is in the same fence at or after `j`, or in the fence behind the node
    rcases hi with hi | hi
    · exact Nat.le_of_not_lt fun hlt => hd (h4 i (Nat.zero_le _) hlt)
    · exact Nat.le_of_lt (Nat.lt_of_lt_of_le h2 (Nat.le_trans (Nat.le_add_right ..) hi.1))
  | none =>
    have hpreclean := firstMismatch_none.1 hpre
    rw [Nat.zero_add] at hpreclean
    have hipost : InPost size fence i := hi.resolve_left fun hi => hd (hpreclean i (Nat.zero_le _) hi)
    cases hpost : firstMismatch m magicFence (fence + size) fence with
    | none => exact absurd (firstMismatch_none.1 hpost i hipost.1 hipost.2) hd
    | some j =>
      obtain ⟨h1, h2, h3, h4⟩ := firstMismatch_some hpost
      refine ⟨j, [], rfl, .inr ⟨h1, h2⟩, h3, Nat.le_of_not_lt fun hlt => hd (h4 i hipost.1 hlt), fun k hk hkf => ?_⟩
      rcases hkf with hkf | hkf
      · exact hpreclean k (Nat.zero_le _) hkf
      · exact h4 k hkf.1 hk

/-- a handler that returns is called at most once per fence -/
theorem C17_at_most_two_reports (size fence : Nat) (m : Bytes) : (llFreeReports size fence m).length ≤ 2 := by
  rw [llFreeReports_eq, List.length_append]
  exact Nat.add_le_add Option.length_toList_le Option.length_toList_le

/-- **New-memory pattern**: every byte of a node handed out carries `new_memory`, both fences carry `fence_memory`,
and nothing outside `[raw, raw + fence + size + fence)` is touched (neighbouring memory). -/
theorem C17_new_pattern (m : Bytes) (raw size fence : Nat) :
    (∀ i, raw + fence ≤ i → i < raw + fence + size → fillNew m raw size fence i = magicNew) ∧
    (∀ i, raw ≤ i → i < raw + fence → fillNew m raw size fence i = magicFence) ∧
    (∀ i, raw + fence + size ≤ i → i < raw + fence + size + fence → fillNew m raw size fence i = magicFence) ∧
    (∀ i, i < raw ∨ raw + fence + size + fence ≤ i → fillNew m raw size fence i = m i) := by
  unfold fillNew
  refine ⟨?_, ?_, ?_, ?_⟩
  · intro i h1 h2
    rw [fill_out _ (.inl h2), fill_in _ h1 h2]
  · intro i h1 h2
    rw [fill_out _ (.inl (Nat.lt_add_right size h2)), fill_out _ (.inl h2), fill_in _ h1 h2]
  · intro i h1 h2
    rw [fill_in _ h1 h2]
  · intro i h
    rcases h with h | h
    · have h1 := Nat.lt_add_right fence h
      rw [fill_out _ (.inl (Nat.lt_add_right size h1)), fill_out _ (.inl h1), fill_out _ (.inl h)]
    · have h1 := Nat.le_of_add_right_le h
      rw [fill_out _ (.inr h), fill_out _ (.inr h1), fill_out _ (.inr (Nat.le_of_add_right_le h1))]

/-- **Freed-memory pattern**: after `debug_fill_free` every byte of the node carries `freed_memory` and no other byte
changed (the fences are only read). A pool then overwrites the first `link` bytes with its link word / index byte. -/
theorem C17_freed_pattern (m : Bytes) (node size fence : Nat) :
    (∀ i, node ≤ i → i < node + size → (fillFree m node size fence).1 i = magicFreed) ∧
    (∀ i, i < node ∨ node + size ≤ i → (fillFree m node size fence).1 i = m i) := by
  unfold fillFree
  exact ⟨fun i h1 h2 => fill_in _ h1 h2, fun i h => fill_out _ h⟩

theorem poke_other (i : Nat) : ∀ (ws : List (Nat × Nat)) (m : Bytes), (∀ w ∈ ws, w.1 ≠ i) → poke m ws i = m i
  | [], _, _ => rfl
  | (o, v) :: ws, m, h => by
    rw [poke, poke_other i ws _ fun w hw => h w (List.mem_cons_of_mem _ hw)]
    exact if_neg fun e => h (o, v) List.mem_cons_self e.symm

/-- in-bounds user writes on a fresh low-level node are never reported (corollary for concrete write lists) -/
theorem C17_inbounds_pokes_never_reported (size fence : Nat) (ws : List (Nat × Nat))
    (hin : ∀ w ∈ ws, fence ≤ w.1 ∧ w.1 < fence + size) :
    llFreeReports size fence (poke (llNew size fence) ws) = [] := by
  apply C17_inbounds_never_reported
  intro i hi
  -- no write goes to a fence offset, and `llNew` put the fence pattern there
  have hne : ∀ w ∈ ws, w.1 ≠ i := fun w hw e =>
    hi.elim (fun hi => Nat.not_lt.2 (hin w hw).1 (e ▸ hi)) fun hi => Nat.not_le.2 (hin w hw).2 (e ▸ hi.1)
  rw [poke_other i ws _ hne]
  have h := C17_new_pattern (fun _ => 0) 0 size fence
  rw [Nat.zero_add] at h
  rcases hi with hi | hi
  · exact h.2.1 i (Nat.zero_le _) hi
  · exact h.2.2.1 i hi.1 hi.2

/-- non-vacuity / instances: a 5-byte node with 16-byte fences; a write one past the end and one before the start -/
example : llFreeReports 5 16 (poke (llNew 5 16) [(21, 0x41)]) = [21] := by decide +kernel
example : llFreeReports 5 16 (poke (llNew 5 16) [(15, 0)]) = [15] := by decide +kernel
example : llFreeReports 5 16 (poke (llNew 5 16) [(30, 1), (3, 2), (9, 7), (36, 0)]) = [3, 30] := by decide +kernel
example : llFreeReports 5 16 (poke (llNew 5 16) [(16, 1), (20, 2)]) = [] := by decide +kernel
example : llFreeReports 5 16 (poke (llNew 5 16) [(21, 0xFD)]) = [] := by decide +kernel   -- rewriting the pattern itself is invisible

end MemVerif.Props.C17
