import MemVerif.Props.C09
import MemVerif.Props.C07
import MemVerif.Props.C01Stack
/-!
# C08 — composable deallocation recognises exactly its own memory

`try_deallocate_*` of pools, collections, stacks and the iteration allocator first asks the arena (`memory_block_stack::owns`)
/ the block (`memory_block::contains`) whether the pointer lies in the usable part of a block the allocator holds.
Live allocations of an allocator lie inside the usable part of its blocks (C01); live allocations of a *sibling* lie in
the sibling's upstream blocks, which are disjoint from ours (the environment's obligation, `BlocksOk` of
`Lemmas/Blocks.lean`) — possibly directly adjacent.
-/
namespace MemVerif.Props.C08
open MemVerif.Model

/-- memory inside the usable part of a held block is recognised -/
theorem C08_owns_inside (a : Arena) (b : Blk) (hb : b ∈ a.used) (p : Nat)
    (h : b.usable.base ≤ p ∧ p < b.usable.base + b.usable.size) : a.owns p = true := by
  unfold Arena.owns
  rw [List.any_eq_true]
  exact ⟨b, hb, by simpa using h⟩

/-- every byte of a range that lies behind the arena's header in a held block — where the C01 invariants place the live
allocations — is recognised -/
theorem owns_range (a : Arena) {b : Blk} (hb : b ∈ a.used) {p len q : Nat} (h1 : b.base + implOff ≤ p)
    (h2 : p + len ≤ b.base + b.size) (hq1 : p ≤ q) (hq2 : q < p + len) : a.owns q = true := by
  apply C08_owns_inside a b hb
  simp only [Blk.usable]
  omega

/-- **Foreign memory is never recognised**: a pointer that lies in none of the arena's blocks — in particular inside a
sibling allocator's block that starts exactly one past the end of an own block (`p = base + size`) or ends directly
before one (`p < base`) — is not owned. Half-open comparison, no hypothesis on adjacency. -/
theorem C08_owns_foreign (a : Arena) (p : Nat) (h : ∀ b ∈ a.used, p < b.base ∨ b.base + b.size ≤ p) :
    a.owns p = false := by
  unfold Arena.owns
  rw [List.any_eq_false]
  intro b hb
  have := h b hb
  rw [decide_eq_true_eq]
  simp only [Blk.usable]
  intro ⟨h1, h2⟩
  omega

/-- `memory_pool::try_deallocate_node` on foreign memory: `false`, nothing changes, no upstream event -/
theorem C08_pool_try_dealloc_foreign (cfg : Cfg) (p : Pool) (a : Nat) (h : p.owns a = false) :
    p.tryDeallocateNode cfg a = ⟨p, .bool false, []⟩ ∧ ∀ n, p.tryDeallocateBytes cfg a n = ⟨p, .bool false, []⟩ := by
  simp [Pool.tryDeallocateNode, Pool.tryDeallocateBytes, h]

/-- … on own memory: exactly the effect of `deallocate_node`, and `true` -/
theorem C08_pool_try_dealloc_own (cfg : Cfg) (p : Pool) (a : Nat) (h : p.owns a = true)
    (hd : (p.deallocateNode cfg a).out = .done) :
    (p.tryDeallocateNode cfg a).out = .bool true ∧ (p.tryDeallocateNode cfg a).st = (p.deallocateNode cfg a).st := by
  simp [Pool.tryDeallocateNode, h, hd]

/-- `memory_pool_collection::try_deallocate_node/array` on foreign memory -/
theorem C08_coll_try_dealloc_foreign (cfg : Cfg) (c : Coll) (a size : Nat) (h : c.arena.owns a = false) :
    c.tryDeallocateNode cfg a size = ⟨c, .bool false, []⟩ ∧
    ∀ n, c.tryDeallocateArray cfg a n size = ⟨c, .bool false, []⟩ := by
  simp [Coll.tryDeallocateNode, Coll.tryDeallocateArray, h]

/-- **A fallback allocator sends every release to the sub-allocator that served the allocation, with the same call
shape** — any nesting depth, any mix of allocations served by defaults and fallbacks, arrays and nodes, both interfaces
(this is `C09_release_matches` read for `fallback_allocator`; the leaves' ownership answers are exact by the theorems
above). -/
theorem C08_fallback_routes_home (e : AExpr) (hd : C09.Distinct e) (t t' : Bool) (r : Req) (ans : List Bool) (c : LeafCall)
    (hc : c ∈ (route t e r ans).calls) (hok : c.ok = true) :
    (release t' e r c.leaf).2.1 = true ∧ ∀ c' ∈ (release t' e r c.leaf).1, c'.ok = true → c'.leaf = c.leaf ∧ c'.req = c.req := by
  obtain ⟨h1, h2⟩ := C09.C09_release_matches e hd t t' r ans c hc hok
  refine ⟨h1, ?_⟩
  intro c' hc' hok'
  have : c' ∈ (release t' e r c.leaf).1.filter (·.ok) := List.mem_filter.2 ⟨hc', by simpa using hok'⟩
  rw [h2] at this
  simp only [List.mem_singleton] at this
  subst this
  exact ⟨rfl, rfl⟩

/-! ### stacks: `try_deallocate_*` only answers the ownership question -/

/-- **`iteration_allocator`: memory of every iteration is recognised.** Whatever `allocate`/`try_allocate` hands out
in the current iteration lies inside the allocator's block, so `try_deallocate_node/array` (`block_.contains`) answers
`true` for every byte of it … -/
theorem C08_iter_recognises_own (cfg : Cfg) (it it' : Iter) (hI : it.Inv) (size k : Nat) (hk : k < 48) (hs : size < 2 ^ 64)
    (hf : cfg.fence ≤ 2 ^ 16) (p : Nat) (h : it.tryAllocate cfg size (2 ^ k) = (it', .ok p)) :
    ∀ q, p ≤ q → q < p + size → it'.contains q = true := by
  obtain ⟨_, _, h1, h2, _⟩ := C07.C07_alloc_in_region cfg it hI size k hk hs hf p it' h
  obtain ⟨hs0, he0⟩ := it.region_inside hI.geo hI.cur
  rcases it.tryAllocate_cases cfg size (2 ^ k) with ⟨_, hr⟩ | ⟨_, _, _, hr⟩
  · rw [hr] at h
    cases h
  · -- only a top pointer moved: the block is the same, and the region of the current iteration lies inside it
    rw [hr] at h
    cases h
    intro q hq1 hq2
    exact decide_eq_true ⟨Nat.le_trans hs0 (Nat.le_trans h1 hq1), Nat.lt_of_lt_of_le hq2 (Nat.le_trans h2 he0)⟩

/-- … and it stays recognised through any number of `next_iteration()` calls (the block never changes), in
particular after the iteration counter has wrapped around -/
theorem C08_iter_contains_next (it : Iter) (p : Nat) : it.nextIteration.contains p = it.contains p := rfl

/-- memory outside the block — in particular the first byte after it, where a sibling allocator's block may start —
is never recognised -/
theorem C08_iter_foreign (it : Iter) (p : Nat) (h : p < it.block.base ∨ it.block.base + it.block.size ≤ p) :
    it.contains p = false := by
  unfold Iter.contains
  rw [decide_eq_false_iff_not]
  omega

/-- **`memory_stack`: every live allocation is recognised** (`try_deallocate_node/array` = `arena_.owns(ptr)`): at every
point of every history each byte of each allocation in the caller's ledger is owned. -/
theorem C08_stack_recognises_own (cfg : Cfg) (e : EnvS) (hf : cfg.fence ≤ 2 ^ 16) (s : MemStack) (hs : s.Inv)
    (hsrc : s.arena.src.NonStatic) (k : Nat) (ops : List SOp) (hw : SOpsWf ops)
    (hlen : s.arena.used.length + s.arena.cached.length + (runOps cfg e s k ops).acquired.length < 2 ^ 64)
    (henv : BlocksOk (s.arena.used ++ s.arena.cached ++ (runOps cfg e s k ops).acquired))
    (live : List (Nat × Nat)) (hq : SQ s.cur s.arena.used live) :
    ∀ a ∈ topLive cfg e s k live ops, ∀ q, a.1 ≤ q → q < a.1 + a.2 → (runOps cfg e s k ops).st.arena.owns q = true := by
  intro a ha q h1 h2
  obtain ⟨b, hb, hb1, hb2⟩ := (C01Stack.C01_stack_live_disjoint_inside cfg e hf s hs hsrc k ops hw hlen henv live hq).2 a ha
  exact owns_range _ hb hb1 hb2 h1 h2

/-- non-vacuity: two pools on adjacent upstream blocks; the boundary address belongs to the upper one only -/
example :
    let lower : Arena := { src := .fixed 0, isCached := false, used := [⟨4096, 1024⟩] }
    let upper : Arena := { src := .fixed 0, isCached := false, used := [⟨5120, 1024⟩] }
    lower.owns 5119 = true ∧ lower.owns 5120 = false ∧ upper.owns 5120 = false ∧ upper.owns (5120 + implOff) = true ∧
    upper.owns 5119 = false := by decide

end MemVerif.Props.C08
