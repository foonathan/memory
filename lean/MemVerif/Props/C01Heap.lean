import MemVerif.Lemmas.HeapList
/-!
# C01 (L2) — the unordered free list with its pointer encoding refines the sequence model

`Model/HeapList.lean` writes `free_memory_list` as the code is: memory is a map from addresses to stored words, the list
is `first_` plus the `next` word at the start of every free node (`list_get_next` / `list_set_next`), `insert_impl` and
`list_search_array` are loops. The theorems below show, for every memory content and every list,

* **refinement**: under the representation predicate `HRepr` (following the stored words from `first_` spells out the
  L1 node sequence and ends in `nullptr`; nodes distinct and non-null) every member function returns what the L1 model
  `FreeList` returns and re-establishes `HRepr` with the L1 result — so every theorem about `FreeList` / pools over it
  (C01, C02, C04) is a theorem about the pointer-level list;
* **frame**: the only words written are `next` words of nodes that are on the free list afterwards (`deallocate`: the
  released node; `insert_impl`: the cells of the inserted run; `allocate(n)`: the node in front of the run taken;
  `allocate()`: nothing). With C01's frame clause (free cells are disjoint from live allocations) the list never
  writes a link word into live memory.

The hypotheses "`p` / the run is not on the list" are exactly what the pool invariant provides for live allocations
and fresh blocks (`CellInv.apart`). Debug fills are separate (C17 model).
-/
namespace MemVerif.Props.C01Heap
open MemVerif.Model

/-- `deallocate(ptr)` refines the L1 push -/
theorem C01_heap_deallocate {hl : HList} {l : FreeList} (h : HRepr hl l) (p : Nat) (hp : p ∉ l.nodes) (hp0 : p ≠ 0) :
    HRepr (hl.deallocate p) (l.deallocate p) := by
  refine ⟨h.ns, by simp [HList.deallocate, FreeList.deallocate, h.cap], ?_, List.nodup_cons.mpr ⟨hp, h.nodup⟩, ?_⟩
  · exact h.chain.push hp
  · intro x hx
    rcases List.mem_cons.mp hx with rfl | hx
    · exact hp0
    · exact h.nonzero x hx

/-- `allocate()` refines the L1 pop: same address, and memory is not written at all -/
theorem C01_heap_allocate {hl : HList} {l : FreeList} (h : HRepr hl l) :
    match hl.allocate, l.allocate with
    | none, none => True
    | some (hl', a), some (l', b) => a = b ∧ HRepr hl' l' ∧ hl'.heap = hl.heap
    | _, _ => False := by
  unfold HList.allocate FreeList.allocate
  have hc := h.chain
  cases hn : l.nodes with
  | nil =>
    rw [hn] at hc
    simp [show hl.first = 0 from hc]
  | cons x xs =>
    rw [hn] at hc
    have hf : hl.first = x := hc.1
    have hne : ¬ hl.first = 0 := hf ▸ h.nonzero x (by simp [hn])
    simp only [hne, if_false]
    exact ⟨hf, h.of_sublist h.ns (by simp [h.cap]) (hf ▸ hc.2) (hn ▸ List.sublist_cons_self x xs), trivial⟩

/-- `insert_impl(mem, size)` (a new block, or a released array) refines the L1 insertion of the run at the front -/
theorem C01_heap_insert {hl : HList} {l : FreeList} (h : HRepr hl l) (mem size : Nat) (hns : 0 < l.ns)
    (hd : ∀ x ∈ blockNodes mem l.ns (size / l.ns), x ∉ l.nodes) (hm0 : 0 < mem) :
    match hl.insertImpl mem size, l.insertImpl mem size with
    | none, none => True
    | some hl', some l' => HRepr hl' l'
    | _, _ => False := by
  unfold HList.insertImpl FreeList.insertImpl
  simp only [h.ns]
  by_cases hk : size / l.ns = 0
  · simp [hk]
  · simp only [hk, if_false]
    obtain ⟨k, hk'⟩ := Nat.exists_eq_succ_of_ne_zero hk
    rw [hk'] at hd ⊢
    simp only [Nat.succ_eq_add_one, Nat.add_sub_cancel]
    refine ⟨rfl, by simp [h.cap], ?_, ?_, ?_⟩
    · exact chain_linkRun l.ns hns l.nodes hl.first k hl.heap mem hd h.chain
    · rw [List.nodup_append]
      refine ⟨(asc_blockNodes mem l.ns (k + 1) hns).imp Nat.ne_of_lt, h.nodup, ?_⟩
      intro a ha b hb e
      exact hd a ha (e ▸ hb)
    · intro x hx
      rcases List.mem_append.mp hx with hx | hx
      · exact Nat.ne_of_gt (Nat.lt_of_lt_of_le hm0 (blockNodes_bounds hx).1)
      · exact h.nonzero x hx

/-- `allocate(n)` refines the L1 array allocation: the pointer-chasing search `list_search_array` finds exactly the
run the sequence-level search finds (or neither finds one), the run is unlinked by one store (or by moving `first_`),
the same address is returned -/
theorem C01_heap_allocate_array {hl : HList} {l : FreeList} (h : HRepr hl l) (hns : 0 < l.ns) (n : Nat) :
    match hl.allocateBytes n l.nodes.length, l.allocateBytes n with
    | none, none => True
    | some (hl', r), some (l', r') => r = r' ∧ HRepr hl' l'
    | _, _ => False := by
  unfold HList.allocateBytes FreeList.allocateBytes
  rw [h.ns]
  by_cases hle : n ≤ l.ns
  · rw [if_pos hle, if_pos hle]
    have := C01_heap_allocate h
    split at this
    · rename_i h1 h2
      simp [h1, h2]
    · rename_i h1 h2
      simp only [h1, h2, Option.map_some]
      exact ⟨by rw [this.1], this.2.1⟩
    · exact this.elim
  · rw [if_neg hle, if_neg hle]
    have hc := h.chain
    cases hn : l.nodes with
    | nil =>
      rw [hn] at hc
      simp [show hl.first = 0 from hc]
    | cons x xs =>
      rw [hn] at hc
      have hf : hl.first = x := hc.1
      have hne : ¬ hl.first = 0 := hf ▸ h.nonzero x (by simp [hn])
      rw [if_neg hne]
      have hspec := searchLoop_spec hl.heap l.ns n xs (xs.length + 1) [] x 0 (hl.heap x) (Nat.le_succ _) hc.2
        (fun y hy => h.nonzero y (by rw [hn]; exact List.mem_cons_of_mem _ hy))
      simp only [List.length_nil, Nat.zero_mul, Nat.add_zero, Nat.zero_add, List.getLastD_nil, Nat.one_mul,
        List.nil_append, blockNodes_one, List.singleton_append] at hspec
      unfold listSearchArray searchArray
      rw [hf]
      simp only [List.length_cons]
      cases hs : searchArrayGo l.ns n xs 0 1 x 1 with
      | none =>
        simp only [hspec.1 hs]
        exact ⟨by simp, h⟩
      | some r =>
        obtain ⟨s, L⟩ := r
        obtain ⟨A, f, B, m, rfl, hsplit, hA, hloop⟩ := hspec.2 s L hs
        simp only [hloop]
        have hsp := split_run (A := A) (B := B) (f := f) (ns := l.ns) (L := m + 1) (Nat.succ_pos m)
        rw [← hsplit, hA] at hsp
        have hcnt : (f + m * l.ns + l.ns - f) / l.ns = m + 1 := by
          rw [Nat.add_assoc, Nat.add_sub_cancel_left, ← Nat.succ_mul, Nat.mul_div_cancel _ hns]
        rw [hsp.1, hsp.2.1, hsp.2.2, hcnt]
        -- `rw [h.ns]`, `rw [hf]` have put `l.ns` and `x` in the place of `hl.ns` and `hl.first`
        have h' : HRepr ⟨l.ns, x, hl.cap, hl.heap⟩ l := ⟨rfl, h.cap, hf ▸ h.chain, h.nodup, h.nonzero⟩
        exact ⟨rfl, h'.unlink (hn.trans hsplit) (m + 1)⟩

/-- `deallocate(ptr, n)` refines the L1 array release (`ceil(n / node_size)` cells go back) -/
theorem C01_heap_deallocate_array {hl : HList} {l : FreeList} (h : HRepr hl l) (p n : Nat) (hns : 0 < l.ns)
    (hd : ∀ x ∈ blockNodes p l.ns (cellsOf l.ns n), x ∉ l.nodes) (hp0 : 0 < p) :
    match hl.deallocateBytes p n, l.deallocateBytes p n with
    | none, none => True
    | some hl', some l' => HRepr hl' l'
    | _, _ => False := by
  unfold HList.deallocateBytes FreeList.deallocateBytes
  rw [h.ns]
  by_cases hle : n ≤ l.ns
  · simp only [hle, if_true]
    have hc : cellsOf l.ns n = 1 := if_pos hle
    rw [hc, blockNodes_one] at hd
    exact C01_heap_deallocate h p (hd p List.mem_cons_self) (Nat.ne_of_gt hp0)
  · simp only [hle, if_false]
    have hc : cellsOf l.ns n = ceilNodes n l.ns := if_neg hle
    rw [hc] at hd
    exact C01_heap_insert h p (ceilNodes n l.ns * l.ns) hns (by rw [Nat.mul_div_cancel _ hns]; exact hd) hp0

/-- `deallocate(ptr)` writes one word: the `next` word of the released node -/
theorem C01_heap_frame_deallocate (hl : HList) (p a : Nat) (h : (hl.deallocate p).heap a ≠ hl.heap a) : a = p :=
  Heap.set_ne h

/-- `insert_impl` writes only `next` words of the cells it inserts -/
theorem C01_heap_frame_insert (hl hl' : HList) (mem size a : Nat) (h : hl.insertImpl mem size = some hl')
    (hne : hl'.heap a ≠ hl.heap a) : a ∈ blockNodes mem hl.ns (size / hl.ns) := by
  unfold HList.insertImpl at h
  simp only at h
  split at h
  · cases h
  · rename_i hk
    cases h
    obtain ⟨k, hk'⟩ := Nat.exists_eq_succ_of_ne_zero hk
    rw [hk'] at hne ⊢
    exact Classical.byContradiction fun hn => hne (linkRun_set_other _ _ _ hn)

/-- `allocate(n)` writes at most one word: the `next` word of the node in front of the run it takes (`i.prev`) -/
theorem C01_heap_frame_allocate_array (hl hl' : HList) (n len a : Nat) (r : Option Nat)
    (h : hl.allocateBytes n len = some (hl', r)) (hne : hl'.heap a ≠ hl.heap a) :
    ∃ i, listSearchArray hl.heap hl.first n hl.ns len = some i ∧ i.prev ≠ 0 ∧ a = i.prev := by
  unfold HList.allocateBytes at h
  by_cases hle : n ≤ hl.ns
  · -- node-sized: `allocate()` does not write
    rw [if_pos hle] at h
    unfold HList.allocate at h
    by_cases h0 : hl.first = 0
    · rw [if_pos h0] at h
      cases h
    · rw [if_neg h0] at h
      cases h
      exact absurd rfl hne
  rw [if_neg hle] at h
  by_cases h0 : hl.first = 0
  · rw [if_pos h0] at h
    cases h
  rw [if_neg h0] at h
  cases hi : listSearchArray hl.heap hl.first n hl.ns len with
  | none =>
    rw [hi] at h
    cases h
    exact absurd rfl hne
  | some i =>
    rw [hi] at h
    cases h
    by_cases hp : i.prev ≠ 0
    · rw [if_pos hp] at hne
      exact ⟨i, rfl, hp, Heap.set_ne hne⟩
    · rw [if_neg hp] at hne
      exact absurd rfl hne

/-- a concrete memory: nodes at 104, 112, 120 chained in that order, then 200; `allocate(16)` (two 8-byte nodes) unlinks
`104, 112` by moving `first_`; releasing the array again re-links it in front -/
example :
    let heap : Heap := fun a => if a = 104 then 112 else if a = 112 then 120 else if a = 120 then 200 else 0
    let hl : HList := { ns := 8, first := 104, cap := 4, heap := heap }
    let l : FreeList := { ns := 8, nodes := [104, 112, 120, 200], cap := 4 }
    HRepr hl l ∧
      (hl.allocateBytes 16 4).map (fun r => (r.2, r.1.first, r.1.cap)) = some (some 104, 120, 2) ∧
      ((hl.allocateBytes 16 4).bind fun r => (r.1.deallocateBytes 104 16).map
        fun h2 => (h2.first, h2.heap 104, h2.heap 112, h2.cap)) = some (104, 112, 120, 4) := by
  refine ⟨⟨rfl, rfl, ?_, by decide, by decide⟩, by decide, by decide⟩
  exact ⟨rfl, rfl, rfl, rfl, rfl⟩

end MemVerif.Props.C01Heap
