import MemVerif.Lemmas.CollExch
import MemVerif.Props.C08
/-!
C08 for `memory_pool_collection` over the intrusive free lists: the composable release `try_deallocate_node(ptr, size)`
recognises exactly the collection's own memory — it returns `true` and releases for every node the caller holds (and
keeps the collection invariant), and returns `false` without changing anything for every pointer outside the blocks
the collection holds (memory of any other allocator: its blocks are disjoint from this collection's).
-/
namespace MemVerif.Props.C08Coll
open MemVerif.Model

theorem live_owned {arr arrLen : Nat} {c : Coll} {live : List (Nat × Nat)} (h : CInv arr arrLen c live) {a s : Nat}
    (hm : (a, s) ∈ live) : c.arena.owns a = true := by
  obtain ⟨b, hb, hin⟩ := h.live_in hm
  exact C08.owns_range c.arena hb hin.1 hin.2 (Nat.le_refl a) (Nat.lt_add_of_pos_right (h.nsOf_pos hm))

/-- **own memory is recognised and released** -/
theorem C08_coll_try_dealloc_own (cfg : Cfg) {arr arrLen : Nat} {c : Coll} {live : List (Nat × Nat)} (h : CInv arr arrLen c live)
    {j a s : Nat} (hj : live[j]? = some (a, s)) (hs : s ≤ c.maxNodeSize) :
    (c.tryDeallocateNode cfg a s).out = .bool true ∧ CInv arr arrLen (c.tryDeallocateNode cfg a s).st (live.eraseIdx j) := by
  obtain ⟨l, l', e, x⟩ := h.exchPush cfg hj
  unfold Coll.tryDeallocateNode
  rw [if_neg (by simp [Nat.not_lt.mpr hs, live_owned h (List.mem_of_getElem? hj)]), e]
  exact ⟨rfl, x.inv h⟩

/-- **foreign memory is refused and nothing changes** -/
theorem C08_coll_try_dealloc_foreign (cfg : Cfg) (c : Coll) (a s : Nat) (hf : c.arena.owns a = false) :
    (c.tryDeallocateNode cfg a s).out = .bool false ∧ (c.tryDeallocateNode cfg a s).st = c := by
  unfold Coll.tryDeallocateNode
  simp [hf]

/-- a pointer inside another allocator's block is foreign: blocks of different allocators are disjoint -/
theorem foreign_of_disjoint (c : Coll) (a : Nat) (blk : Blk) (hin : blk.base ≤ a ∧ a < blk.base + blk.size)
    (hd : ∀ b ∈ c.arena.used, b.Disj blk) : c.arena.owns a = false :=
  C08.C08_owns_foreign c.arena a fun b hb =>
    (hd b hb).symm.imp (fun h => Nat.lt_of_lt_of_le hin.2 h) (fun h => Nat.le_trans h hin.1)

/-- **an own array is recognised and released**: `try_deallocate_array(ptr, count, size)` of an array whose cells the
caller holds returns `true`, and the invariant holds for the ledger without its cells -/
theorem C08_coll_try_dealloc_array_own (cfg : Cfg) {arr arrLen : Nat} {c : Coll} {live : List (Nat × Nat)} (h : CInv arr arrLen c live)
    (harr : c.arrays = true) {a count s : Nat} {l : AnyList} (hl : c.lists[c.listIndex s]? = some l) (hs : s ≤ c.maxNodeSize)
    (hsub : ∀ x ∈ arrEntries l.nodeSize a s (arrCells l.nodeSize count s), x ∈ live) :
    (c.tryDeallocateArray cfg a count s).out = .bool true ∧
      CInv arr arrLen (c.tryDeallocateArray cfg a count s).st (removeEntries live (arrEntries l.nodeSize a s (arrCells l.nodeSize count s))) := by
  -- the first cell of the array is a cell the caller holds
  have hm : (a, s) ∈ live :=
    hsub _ (mem_arrEntries.mpr ⟨0, cellsOf_pos _ _ (h.lists _ l hl).2.2, by simp⟩)
  obtain ⟨l', e, x⟩ := h.exchPushRun cfg hl hsub
  unfold Coll.tryDeallocateArray
  rw [if_neg (by simp [harr, Nat.not_lt.mpr hs, live_owned h hm]), e]
  exact ⟨rfl, x.inv h⟩

/-- **a foreign array is refused and nothing changes** (also: a collection without array support refuses every array) -/
theorem C08_coll_try_dealloc_array_foreign (cfg : Cfg) (c : Coll) (a count s : Nat)
    (hf : c.arena.owns a = false ∨ c.arrays = false) :
    (c.tryDeallocateArray cfg a count s).out = .bool false ∧ (c.tryDeallocateArray cfg a count s).st = c := by
  unfold Coll.tryDeallocateArray
  rcases hf with hf | hf <;> simp [hf]

end MemVerif.Props.C08Coll
