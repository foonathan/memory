import MemVerif.Lemmas.CollHist
import MemVerif.Lemmas.CollCreate
/-!
C01 for `memory_pool_collection` over the intrusive free lists (`node_pool`, `array_pool` buckets), **node
operations** (`allocate_node(size)`, `try_allocate_node(size)`, `deallocate_node(ptr, size)`), every history, every
bucket policy, every configuration (fence size up to `2^32`).

`…_partial`: the full property C01 also quantifies over `allocate_array` on a collection (proved in
`Props/C01CollArr`) and over collections whose buckets are `small_node_pool` lists; the latter stay at the
correspondence level (`checks/c01.py`).

The model run here (`GColl`, `Model/CollRun.lean`) is the collection model the driver executes (`Coll`,
`Model/Pool.lean`), with a ghost ledger of what the caller holds.
-/
namespace MemVerif.Props.C01Coll
open MemVerif.Model

/-- the invariant, with the ledger -/
def GInv (arr arrLen : Nat) (g : GColl) : Prop := CInv arr arrLen g.c g.live

/-- **Construction**: a freshly constructed collection over either intrusive list satisfies the invariant (the list
array is the byte range the constructor carved from the first block). -/
theorem C01_coll_create (cfg : Cfg) (src : Src) (kind : String) (hk : kind = "free" ∨ kind = "ord") (pol : Policy)
    (arrays : Bool) (maxNode : Nat) (env : List (Option Nat)) (hf : cfg.fence ≤ 2 ^ 32)
    (hn : (noElements pol (BitVec.ofNat 64 (minElemOf kind)) (BitVec.ofNat 64 maxNode)).toNat * sizeofList kind < 2 ^ 64)
    {c : Coll} {out : Out} {ev : List UpEv} (h : Coll.create cfg src kind pol arrays maxNode env = (some c, out, ev))
    (hb : BlocksOk c.arena.used) :
    ∃ arr arrLen, GInv arr arrLen ⟨c, []⟩ := by
  obtain ⟨a', blk, arr, cur', n, en, hua, hfa, rfl⟩ := Coll.create_eq h
  rw [← en] at hn
  rw [hua] at hb
  have hw := hb.1 blk (by simp)
  have hal : alignofList kind = 2 ^ 3 := by
    rcases hk with rfl | rfl <;> decide
  rw [mul64_eq hn, hal, hw.usable_end] at hfa
  -- all that is needed of the carving: the array lies in the usable part of the block, below `cur'`
  obtain ⟨_, hA, hB, f5⟩ := fixedAllocate_in (k := 3) (by decide) (Nat.add_le_add_left hw.2.1 _) hw.2.2 hn hf hfa
  have hin : InBlk blk arr (n * sizeofList kind) := ⟨hA, Nat.le_trans hB f5⟩
  refine ⟨arr, n * sizeofList kind, hua ▸ hb, ⟨blk, [], hua, Nat.le_trans hA (Nat.le_trans (Nat.le_add_right _ _) hB), f5⟩,
    ?_, ?_, ?_, by intro as has; cases has⟩
  · intro i l hl
    obtain ⟨_, rfl⟩ := List.getElem?_map_range hl
    obtain ⟨hi, _, hns, hS, _⟩ := Coll.mkList_spec hk pol arr i
    exact ⟨hi, hS _ hin.pos, by rw [hns]; exact intrusiveNodeSize_pos _⟩
  · intro i l hl B hB
    obtain ⟨hlt, rfl⟩ := List.getElem?_map_range hl
    obtain ⟨rfl, h48⟩ := (Coll.mkList_spec hk pol arr i).2.2.2.2 B hB
    have h2 : (i + 1) * sizeofList kind ≤ n * sizeofList kind := Nat.mul_le_mul_right _ hlt
    rw [Nat.add_mul] at h2
    omega
  · have hcells : ∀ l ∈ (List.range n).map (Coll.mkList kind pol arr), l.cells = [] := by
      intro l hl
      obtain ⟨i, _, rfl⟩ := List.mem_map.mp hl
      exact (Coll.mkList_spec hk pol arr i).2.1
    unfold collRanges
    rw [cellRanges_nil_of hcells]
    -- the list array is the only range
    refine ⟨List.pairwise_singleton _ _, fun r hr => ?_, fun _ _ _ r hr _ => ?_⟩
    · cases List.mem_singleton.mp hr
      exact ⟨blk, hua ▸ List.mem_singleton_self blk, hin⟩
    · cases List.mem_singleton.mp hr
      exact hB

/-- **C01 (invariant), collections, node operations.** Along every history of node requests and releases of live
nodes (each released with the size it was requested with), with an environment whose blocks are well formed and
pairwise disjoint, the invariant holds at the end. -/
theorem C01_coll_invariant_partial (cfg : Cfg) (e : EnvS) (arr arrLen : Nat) (hf : cfg.fence ≤ 2 ^ 32) (g : GColl) (k : Nat)
    (ops : List COpn) (hI : GInv arr arrLen g) (henv : BlocksOk (g.run cfg e k ops).1.c.arena.used) :
    GInv arr arrLen (g.run cfg e k ops).1 :=
  (GColl.run_kept cfg e hf ops g k hI henv).inv

/-- … hence **at every point** of the history -/
theorem C01_coll_every_point_partial (cfg : Cfg) (e : EnvS) (arr arrLen : Nat) (hf : cfg.fence ≤ 2 ^ 32) (g : GColl) (k : Nat)
    (ops : List COpn) (n : Nat) (hI : GInv arr arrLen g) (henv : BlocksOk (g.run cfg e k ops).1.c.arena.used) :
    GInv arr arrLen (g.run cfg e k (ops.take n)).1 := by
  apply (GColl.run_kept cfg e hf (ops.take n) g k hI _).inv
  rw [← List.take_append_drop n ops, GColl.run_append] at henv
  exact henv.suffix (GColl.run_ext cfg e (ops.drop n) _ _).used

/-- what the invariant says about the caller's memory -/
theorem live_facts {arr arrLen : Nat} {c : Coll} {live : List (Nat × Nat)} (h : CInv arr arrLen c live) :
    (live.map fun as => (as.1, c.nsOf as.2)).Pairwise (fun r s => r.1 + r.2 ≤ s.1 ∨ s.1 + s.2 ≤ r.1) ∧
    (∀ as ∈ live, ∃ b ∈ c.arena.used, b.usable.base ≤ as.1 ∧ as.1 + c.nsOf as.2 ≤ b.usable.base + b.usable.size) ∧
    (∀ as ∈ live, ∀ l ∈ c.lists, ∀ x ∈ l.cells, as.1 + c.nsOf as.2 ≤ x ∨ x + l.nodeSize ≤ as.1) ∧
    (∀ as ∈ live, as.1 + c.nsOf as.2 ≤ arr ∨ arr + arrLen ≤ as.1) := by
  obtain ⟨a1, a2, a3⟩ := h.apart
  refine ⟨a3, fun as has => ?_, fun as has l hl x hx => (a2 l hl x hx as has).symm, a1⟩
  obtain ⟨b, hb, hin⟩ := h.live_in has
  exact ⟨b, hb, (inBlk_iff_usable (h.blocks.1 b hb)).mp hin⟩

/-- **C01 (live allocations), collections, node operations.** At the end of any such history — hence at every point —
the live nodes are pairwise disjoint, apart from all free memory and from the list array, and inside held blocks. -/
theorem C01_coll_live_disjoint_inside_partial (cfg : Cfg) (e : EnvS) (arr arrLen : Nat) (hf : cfg.fence ≤ 2 ^ 32) (g : GColl)
    (k : Nat) (ops : List COpn) (hI : GInv arr arrLen g) (henv : BlocksOk (g.run cfg e k ops).1.c.arena.used) :
    let g' := (g.run cfg e k ops).1
    (g'.live.map fun as => (as.1, g'.c.nsOf as.2)).Pairwise (fun r s => r.1 + r.2 ≤ s.1 ∨ s.1 + s.2 ≤ r.1) ∧
    (∀ as ∈ g'.live, ∃ b ∈ g'.c.arena.used, b.usable.base ≤ as.1 ∧ as.1 + g'.c.nsOf as.2 ≤ b.usable.base + b.usable.size) ∧
    (∀ as ∈ g'.live, ∀ l ∈ g'.c.lists, ∀ x ∈ l.cells, as.1 + g'.c.nsOf as.2 ≤ x ∨ x + l.nodeSize ≤ as.1) ∧
    (∀ as ∈ g'.live, as.1 + g'.c.nsOf as.2 ≤ arr ∨ arr + arrLen ≤ as.1) :=
  live_facts (GColl.run_kept cfg e hf ops g k hI henv).inv

/-- **Every bucket's list stays well formed, and the bump pointer stays inside the current block**: the
preconditions of the list-level theorems (C04/C16/C18) hold for every bucket at every point. -/
theorem C01_coll_lists_wellformed_partial (cfg : Cfg) (e : EnvS) (arr arrLen : Nat) (hf : cfg.fence ≤ 2 ^ 32) (g : GColl)
    (k : Nat) (ops : List COpn) (hI : GInv arr arrLen g) (henv : BlocksOk (g.run cfg e k ops).1.c.arena.used) :
    let g' := (g.run cfg e k ops).1
    (∀ (i : Nat) (l : AnyList), g'.c.lists[i]? = some l → l.SInv g'.c.arena.used [] ∧ 0 < l.nodeSize) ∧
    (∃ b0 rest, g'.c.arena.used = b0 :: rest ∧ b0.usable.base ≤ g'.c.cur ∧ g'.c.cur ≤ b0.base + b0.size) := by
  intro g'
  have h := (GColl.run_kept cfg e hf ops g k hI henv).inv
  exact ⟨fun i l hl => ⟨(h.lists i l hl).2.1, (h.lists i l hl).2.2⟩, h.top⟩

/-- **Releasing a live node always succeeds** (no handler call, no crash, no upstream traffic), in every configuration,
at every point of every history. -/
theorem C01_coll_release_succeeds (cfg : Cfg) (e : EnvS) (arr arrLen : Nat) (hf : cfg.fence ≤ 2 ^ 32) (g : GColl) (k : Nat)
    (ops : List COpn) (hI : GInv arr arrLen g) (henv : BlocksOk (g.run cfg e k ops).1.c.arena.used) (i a s : Nat)
    (hi : (g.run cfg e k ops).1.live[i]? = some (a, s)) :
    ((g.run cfg e k ops).1.c.deallocateNode cfg a s).out = .done ∧ ((g.run cfg e k ops).1.c.deallocateNode cfg a s).ev = [] := by
  obtain ⟨_, _, eq, _⟩ := (GColl.run_kept cfg e hf ops g k hI henv).inv.exchPush cfg hi
  rw [eq]
  exact ⟨rfl, rfl⟩

/-! ### the node size of the bucket that serves a request

The live range of a node is as long as its bucket's node size; that this is at least the requested size for identity and
log2 buckets is `C02Coll.C02_coll_size_identity`, `C02Coll.C02_coll_size_log2`, from `nsOf_eq_bucketNodeSize` below. -/

/-- the node size the list constructor stores is the model's `listNodeSize` for the intrusive lists -/
theorem intrusive_eq_listNodeSize (x : BitVec 64) : intrusiveNodeSize x.toNat = (listNodeSize 8#64 x).toNat := by
  rw [intrusiveNodeSize_eq, C19.listNodeSize_toNat]
  rfl

/-- a collection whose buckets were sized by the constructor -/
def Sized (c : Coll) : Prop :=
  c.minElem = 8 ∧ ∀ (i : Nat) (l : AnyList), c.lists[i]? = some l →
    l.nodeSize = (listNodeSize 8#64 (c.policy.sizeFromIndex (BitVec.ofNat 64 i + minSizeIndex c.policy 8#64))).toNat

/-- **a constructed collection over either intrusive list is `Sized`** -/
theorem C01_coll_create_sized (cfg : Cfg) (src : Src) (kind : String) (hk : kind = "free" ∨ kind = "ord") (pol : Policy)
    (arrays : Bool) (maxNode : Nat) (env : List (Option Nat)) {c : Coll} {out : Out} {ev : List UpEv}
    (h : Coll.create cfg src kind pol arrays maxNode env = (some c, out, ev)) : Sized c := by
  obtain ⟨h1, h2, arr, n, h3⟩ := Coll.create_shape h
  have hm : minElemOf kind = 8 := by rcases hk with rfl | rfl <;> decide
  refine ⟨by rw [h2, hm], fun i l hl => ?_⟩
  rw [h3] at hl
  obtain ⟨_, rfl⟩ := List.getElem?_map_range hl
  rw [(Coll.mkList_spec hk pol arr i).2.2.1, h1, hm]
  exact intrusive_eq_listNodeSize _

theorem nsOf_eq_bucketNodeSize {c : Coll} (hs : Sized c) (size : Nat) {l : AnyList}
    (hl : c.lists[c.listIndex size]? = some l) :
    c.nsOf size = (bucketNodeSize c.policy 8#64 (BitVec.ofNat 64 size)).toNat := by
  rw [Coll.nsOf_eq hl, hs.2 _ l hl]
  unfold Coll.listIndex bucketNodeSize
  rw [hs.1]
  have e8 : BitVec.ofNat 64 8 = 8#64 := rfl
  rw [e8, BitVec.ofNat_toNat, BitVec.setWidth_eq, BitVec.sub_add_cancel]

/-- the hypotheses are satisfiable (a test, labelled as a test): a concrete collection (`node_pool`, log2 buckets up to
64 bytes, 16-byte fences, blocks of 1000 then 2000 bytes): the constructed state and the final state of a history that
empties the first block, gives its rest to a bucket, grows, and releases in another order have pairwise disjoint
well-formed blocks, which is all the theorems above ask of the environment; the ledger at the end holds seven nodes
from four buckets. -/
def demo : Bool :=
  let cfg : Cfg := { fence := 16, dblDealloc := true, assert := true }
  let e : EnvS := fun k => if k = 0 then some 4096 else if k = 1 then some 65536 else none
  let ops : List COpn := [.allocNode 8, .allocNode 33, .tryAllocNode 64, .allocNode 17, .dealloc 1, .allocNode 64,
    .allocNode 9, .tryAllocNode 3, .dealloc 0, .allocNode 40, .allocNode 64, .tryAllocNode 65]
  match Coll.create cfg (.growing 2 1 1000) "free" .log2 false 64 [e 0] with
  | (some c0, out, _) =>
    let g := (GColl.run cfg e ⟨c0, []⟩ 1 ops).1
    decide (out = .done) && decide (BlocksOk c0.arena.used) && decide (BlocksOk g.c.arena.used) &&
      decide (g.c.arena.used.length = 2) && decide (g.live.length = 7)
  | _ => false

example : demo = true := by decide +kernel

end MemVerif.Props.C01Coll
