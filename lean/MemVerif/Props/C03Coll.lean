import MemVerif.Lemmas.CollServed
import MemVerif.Props.C03
/-!
C03 for `memory_pool_collection` over the intrusive free lists, node and array requests and `reserve`: a request that
cannot be served is signalled (never `nullptr` from the throwing function), and **a failed request leaves every earlier
allocation valid and the allocator able to serve later requests**: the collection invariant (`CInv`) still holds with
the *same* ledger.

`…_partial`: collections whose buckets are `small_node_pool` lists are excluded.
-/
namespace MemVerif.Props.C03Coll
open MemVerif.Model

/-- **`allocate_node` of a collection never returns `nullptr`** -/
theorem C03_coll_node_never_null (cfg : Cfg) (c : Coll) (size : Nat) (env : List (Option Nat)) :
    (c.allocateNode cfg size env).out ≠ .null := by
  unfold Coll.allocateNode
  refine ite_ind (P := fun r : PRes Coll => r.out ≠ .null) (fun _ => nofun) fun _ => ?_
  dsimp only
  split
  · split
    · -- the bucket's `allocate()` answers an address or crashes
      unfold Coll.takeNode
      split
      · split
        · nofun
        · nofun
      · nofun
    · -- the refill failed, or there was none and the step reports `done`
      split
      · exact (Coll.refill_out cfg c _ _ env).2.1
      · nofun
  · nofun

/-- **C03 (a failed request preserves), collections, node operations.** Whatever way `allocate_node` fails — the
library's `bad_node_size`, `out_of_memory` from the block source — the ledger of live nodes is untouched and the
collection invariant still holds for it: every earlier allocation is still valid, and the allocator can serve later
requests (all history theorems of `Props/C01Coll` and `Props/C04Coll` start from `CInv`). -/
theorem C03_coll_failure_preserves_partial (cfg : Cfg) {arr arrLen : Nat} {c : Coll} {live : List (Nat × Nat)}
    (hI : CInv arr arrLen c live) (hf : cfg.fence ≤ 2 ^ 32) (size : Nat) (env : List (Option Nat)) (ex : Exn)
    (hb : BlocksOk (c.allocateNode cfg size env).st.arena.used) (hout : (c.allocateNode cfg size env).out = .throws ex) :
    CInv arr arrLen (c.allocateNode cfg size env).st live := by
  have := ((Coll.allocateNode_served cfg c size env).keptNode hI hf hb).inv
  rw [hout] at this
  exact this

/-- `try_allocate_node`: never throws, no upstream event (C03's try-half `C03.C03_try_coll_node`, which also says that
the arena is untouched, restated here next to the invariant), and a `nullptr` answer keeps ledger and invariant -/
theorem C03_coll_try_keeps_partial (cfg : Cfg) {arr arrLen : Nat} {c : Coll} {live : List (Nat × Nat)}
    (hI : CInv arr arrLen c live) (hf : cfg.fence ≤ 2 ^ 32) (size : Nat) :
    (c.tryAllocateNode cfg size).ev = [] ∧ (∀ ex, (c.tryAllocateNode cfg size).out ≠ .throws ex) ∧
    ((c.tryAllocateNode cfg size).out = .null → CInv arr arrLen (c.tryAllocateNode cfg size).st live) := by
  obtain ⟨t1, t2, t3⟩ := C03.C03_try_coll_node cfg c size
  refine ⟨t2, t1, fun hout => ?_⟩
  have := ((Coll.tryAllocateNode_served cfg c size).keptNode hI hf (by rw [t3]; exact hI.blocks)).inv
  rw [hout] at this
  exact this

/-- **C03 (a failed array request preserves), collections.** Whatever way `allocate_array` fails — `bad_node_size`,
`bad_array_size` in the third stage, `out_of_memory` from the block source in the second or third stage, after memory was
already reserved and inserted — the ledger is untouched and the invariant holds for it. -/
theorem C03_coll_array_failure_preserves_partial (cfg : Cfg) {arr arrLen : Nat} {c : Coll} {live : List (Nat × Nat)}
    (hI : CInv arr arrLen c live) (hf : cfg.fence ≤ 2 ^ 32) (count size : Nat) (env : List (Option Nat))
    (hb : BlocksOk (c.allocateArray cfg count size env).st.arena.used)
    (hout : ∀ a, (c.allocateArray cfg count size env).out ≠ .ok a) :
    CInv arr arrLen (c.allocateArray cfg count size env).st live := by
  have := ((Coll.allocateArray_served cfg c count size env).keptRun hI hf hb).inv
  rwa [ledgerArr_not_ok hout] at this

/-- `try_allocate_array`: never throws, no upstream event, arena untouched, and a `nullptr` answer keeps ledger and
invariant -/
theorem C03_coll_try_array_keeps_partial (cfg : Cfg) {arr arrLen : Nat} {c : Coll} {live : List (Nat × Nat)}
    (hI : CInv arr arrLen c live) (hf : cfg.fence ≤ 2 ^ 32) (count size : Nat) :
    (c.tryAllocateArray cfg count size).ev = [] ∧ (∀ ex, (c.tryAllocateArray cfg count size).out ≠ .throws ex) ∧
    (c.tryAllocateArray cfg count size).st.arena = c.arena ∧
    ((c.tryAllocateArray cfg count size).out = .null → CInv arr arrLen (c.tryAllocateArray cfg count size).st live) := by
  obtain ⟨t1, t2, t3⟩ := C03.C03_try_coll_array cfg c count size
  refine ⟨t2, t1, t3, ?_⟩
  intro hout
  have := ((Coll.tryAllocateArray_served cfg c count size).keptRun hI hf (by rw [t3]; exact hI.blocks)).inv
  rwa [ledgerArr_not_ok (by rw [hout]; intro a h; cases h)] at this

/-- `reserve(size, capacity)` never hands anything out and keeps ledger and invariant whether or not it succeeds -/
theorem C03_coll_reserve_keeps_partial (cfg : Cfg) {arr arrLen : Nat} {c : Coll} {live : List (Nat × Nat)}
    (hI : CInv arr arrLen c live) (hf : cfg.fence ≤ 2 ^ 32) (size : Nat) {capacity : Nat} (hcap : capacity < 2 ^ 64)
    (env : List (Option Nat)) (hb : BlocksOk (c.reserveOp cfg size capacity env).st.arena.used) :
    CInv arr arrLen (c.reserveOp cfg size capacity env).st live :=
  ((Coll.reserveOp_fill cfg c size capacity env).spec hcap hf hI hb).1

end MemVerif.Props.C03Coll
