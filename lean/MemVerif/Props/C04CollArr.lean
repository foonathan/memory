import MemVerif.Props.C04Coll
/-!
C04 for `memory_pool_collection` over the intrusive free lists, **node and array operations**, every history: no
bucket loses a cell. The ledger of `Model/CollRunA.lean` is a list of cells (an array is its consecutive cells), so the
per-bucket measure "free cells + cells the caller holds" covers arrays; it never decreases, and once nothing is held every
bucket's `capacity()` is at least its capacity at the start plus the cells that were held.

`…_partial`: `small_node_pool` buckets stay at the correspondence level (`checks/c04.py`).
-/
namespace MemVerif.Props.C04CollArr
open MemVerif.Model

/-- **C04 (accounting), collections, node and array operations.** -/
theorem C04_coll_array_measure_monotone_partial (cfg : Cfg) (e : EnvS) (arr arrLen : Nat) (hf : cfg.fence ≤ 2 ^ 32) (g : GCollA)
    (k : Nat) (ops : List COpA) (hfit : ∀ op ∈ ops, op.Fits) (hI : CInv arr arrLen g.c g.live)
    (henv : BlocksOk (g.run cfg e k ops).1.c.arena.used) (j : Nat) :
    g.c.measure g.live j ≤ (g.run cfg e k ops).1.c.measure (g.run cfg e k ops).1.live j :=
  (GCollA.run_kept cfg e hf ops g k hfit hI henv).measure j

/-- **C04 (no capacity lost), collections, node and array operations.** If at the end of a history the caller holds
nothing, every bucket's `capacity()` is at least its capacity at the start plus the number of its cells that were held. -/
theorem C04_coll_array_no_capacity_lost_partial (cfg : Cfg) (e : EnvS) (arr arrLen : Nat) (hf : cfg.fence ≤ 2 ^ 32) (g : GCollA)
    (k : Nat) (ops : List COpA) (hfit : ∀ op ∈ ops, op.Fits) (hI : CInv arr arrLen g.c g.live)
    (henv : BlocksOk (g.run cfg e k ops).1.c.arena.used) (hend : (g.run cfg e k ops).1.live = []) (j : Nat) :
    C04Coll.capacityAt g.c j + g.c.liveAt g.live j ≤ C04Coll.capacityAt (g.run cfg e k ops).1.c j :=
  C04Coll.capacity_of_measure hI (GCollA.run_kept cfg e hf ops g k hfit hI henv).inv
    (C04_coll_array_measure_monotone_partial cfg e arr arrLen hf g k ops hfit hI henv j) hend

/-- **A release of a held array returns exactly its cells** to its bucket and changes no other bucket. (An array request
served from the list takes exactly its cells: `Exch.measure` with `CInv.exchPopRun`.) -/
theorem C04_coll_array_release_exact (cfg : Cfg) {arr arrLen : Nat} {c : Coll} {live : List (Nat × Nat)}
    (h : CInv arr arrLen c live) {a count s : Nat} {l : AnyList} (hl : c.lists[c.listIndex s]? = some l)
    (hsub : ∀ x ∈ arrEntries l.nodeSize a s (arrCells l.nodeSize count s), x ∈ live) (j : Nat) :
    (c.deallocateArray cfg a count s).st.measure (removeEntries live (arrEntries l.nodeSize a s (arrCells l.nodeSize count s))) j
      = c.measure live j := by
  obtain ⟨l', e, x⟩ := h.exchPushRun cfg hl hsub
  rw [e]
  exact x.measure j

/-- **`reserve(size, capacity)` gains memory for its bucket** (the D34 repair): whenever it succeeds, the bucket of
`size` has at least one free cell more than before, and no other bucket has fewer. -/
theorem C04_coll_reserve_gains (cfg : Cfg) {arr arrLen : Nat} {c : Coll} {live : List (Nat × Nat)} (h : CInv arr arrLen c live)
    (size capacity : Nat) (env : List (Option Nat)) (hd : (c.reserveOp cfg size capacity env).out = .done) :
    c.cellsAt (c.listIndex size) + 1 ≤ (c.reserveOp cfg size capacity env).st.cellsAt (c.listIndex size) ∧
    ∀ j, c.cellsAt j ≤ (c.reserveOp cfg size capacity env).st.cellsAt j := by
  have hi := h.allIntr
  refine ⟨?_, (Coll.reserveOp_fill cfg c size capacity env).grow.cells hi⟩
  unfold Coll.reserveOp at hd ⊢
  simp only at hd ⊢
  cases hl : c.lists[c.listIndex size]? with
  | none => simp [hl] at hd
  | some l =>
    simp only [hl] at hd ⊢
    exact Coll.refill_gains hi hd

/-- satisfiable and attained (a test, labelled as a test): the history of `C01CollArr.demo` followed by the release of
everything: afterwards nothing is held and every bucket's capacity equals its free cells -/
def demo : Bool :=
  let cfg : Cfg := { fence := 8, dblDealloc := true, assert := true }
  let e : EnvS := fun k => if k = 0 then some 4096 else if k = 1 then some 65536 else if k = 2 then some 300000 else none
  let ops : List COpA := [.allocArray 3 16, .node (.allocNode 16), .allocArray 5 24, .tryAllocArray 2 16, .deallocArray 2,
    .allocArray 40 16, .node (.allocNode 24), .deallocArray 0, .allocArray 4 8, .tryAllocArray 1000 8,
    .deallocArray 0, .deallocArray 0, .deallocArray 0, .node (.dealloc 0), .node (.dealloc 0)]
  match Coll.create cfg (.growing 2 1 2000) "ord" .identity true 24 [e 0] with
  | (some c0, _, _) =>
    let g := (GCollA.run cfg e { c := c0 } 1 ops).1
    decide (g.live = []) && decide (g.arrs = []) &&
      decide ((List.range 17).map (C04Coll.capacityAt g.c) = (List.range 17).map g.c.cellsAt) &&
      decide (0 < C04Coll.capacityAt g.c 0 ∧ 0 < C04Coll.capacityAt g.c 8 ∧ 0 < C04Coll.capacityAt g.c 16)
  | _ => false

example : demo = true := by decide +kernel

end MemVerif.Props.C04CollArr
