import MemVerif.Lemmas.PoolInv
import MemVerif.Props.C12
/-!
# C12 — moving a `memory_pool` (any of the three list types) keeps everything that was handed out valid

`memory_pool(memory_pool&&)` (`Pool.moveInto b e`, Model/Pool.lean; the driver uses the same function for `move`,
`move_assign` and the three-move swap): the new object takes the arena, the free list and the leak count; the list is
re-based onto the proxy words `b` (`e`) of the *new* list object and its cursors are reset.

Theorem: if the pool satisfied the C01 invariant `PInvG` with the ledger `live`, and the new pool object lies outside
the pool's blocks (environment, as for construction), the new pool satisfies `PInvG` with the **same ledger**: every
pointer handed out before the move is still a live allocation of the new owner (disjoint, inside its blocks, releasable
— `C01Ord.C01_ipool_release_succeeds` applies to it), nothing was lost (conservation clause). The moved-from object
holds no block and no node; destroying it touches nothing (`C12.C12_arena_moved_from_inert`).
-/
namespace MemVerif.Props.C12Pool
open MemVerif.Model

/-- the list descriptor with the proxy words at a new address -/
def reobj (o : AnyList.ListObj) (b : Nat) : AnyList.ListObj :=
  match o with
  | .unordered => .unordered
  | .ordered _ => .ordered b
  | .small _ => .small b

/-- **The moved-to pool owns everything the source owned.** -/
theorem C12_pool_move_keeps_invariant (ns : Nat) (o : AnyList.ListObj) (p : Pool) (live : List (Nat × Nat)) (b : Nat)
    (hI : PInvG ns o p live) (hb : 0 < b) (hout : ObjOut (reobj o b) p.arena.used) :
    PInvG ns (reobj o b) (p.moveInto b (b + 8)).1 live := by
  obtain ⟨arena, list, arrays, leak⟩ := p
  have hsinv := hI.sinv
  cases list with
  | free fl =>
    cases hI.objEq
    exact hI.congr_list rfl rfl rfl rfl hsinv
  | ord ol =>
    cases hI.objEq
    have hinv : ol.Inv := hsinv
    obtain rfl : ol.ns = ns := hI.nsEq
    -- every node lies in a block, hence outside the new proxy words
    have hapart : ∀ a ∈ ol.nodes, a + ol.ns ≤ b ∨ b + 8 + 8 ≤ a := fun a ha =>
      let ⟨blk, hblk, hin⟩ := hI.cell.freeIn a ha
      outObj_of_inBlk hout hblk hin
    have hBn : b ∉ ol.nodes := fun h => by have := hapart b h; have := hinv.nsPos; omega
    have hEn : b + 8 ∉ ol.nodes := fun h => by have := hapart (b + 8) h; have := hinv.nsPos; omega
    have hcur := C12.C12_ordlist_move_cursor ol b (b + 8) (by omega) hBn hEn
    exact hI.congr_list rfl rfl rfl rfl
      ⟨hinv.asc, ⟨rfl, hb⟩, ⟨hBn, hEn⟩, hapart, hinv.nsPos, hinv.nodePos, hinv.cap, 0, Nat.zero_le _, hcur.1, hcur.2⟩
  | small sl =>
    cases hI.objEq
    have hok : SmallOk sl arena.used live := hsinv
    refine hI.congr_list rfl rfl rfl rfl
      (show SmallOk { sl with P := b, allocChunk := b, deallocChunk := b } arena.used live from
        ⟨hok.invS, ⟨hok.ring.sorted, ⟨0, if_pos rfl⟩, ⟨0, if_pos rfl⟩, ?_⟩,
          hok.nsPos, hok.chunkIn, hok.liveGrid⟩)
    -- every chunk lies in a block, hence outside the new proxy chunk
    intro c hc
    obtain ⟨blk, hblk, h1, h2⟩ := hok.chunkIn c hc
    rw [(hI.cell.blocks.1 blk hblk).usable_end] at h2
    have := hout blk hblk
    have : blk.base ≤ blk.usable.base := Nat.le_add_right _ _
    show b < c.base ∨ c.endOf sl.ns ≤ b
    omega

/-- the moved-from pool holds no block, no free node and no leak count: its destruction releases nothing and reports
nothing -/
theorem C12_pool_moved_from_inert (cfg : Cfg) (p : Pool) (b e : Nat) :
    (p.moveInto b e).2.arena.used = [] ∧ (p.moveInto b e).2.arena.cached = [] ∧ (p.moveInto b e).2.list.cells = [] ∧
      ((p.moveInto b e).2.destroy cfg).1 = [] ∧ ((p.moveInto b e).2.destroy cfg).2.1 = none := by
  have hd := C12.C12_arena_moved_from_inert cfg p.arena
  refine ⟨rfl, rfl, ?_, ?_, ?_⟩
  · unfold Pool.moveInto
    cases p.list <;> rfl
  · unfold Pool.destroy Pool.moveInto
    exact hd
  · unfold Pool.destroy Pool.moveInto
    simp

/-- moving twice (`tmp(move(a)); b = move(tmp)`) composes: the list ends up re-based on the last object; all that
matters of the intermediate object is that it was outside the blocks -/
theorem C12_pool_move_twice (ns : Nat) (o : AnyList.ListObj) (p : Pool) (live : List (Nat × Nat)) (b1 b2 : Nat)
    (hI : PInvG ns o p live) (h1 : 0 < b1) (h2 : 0 < b2) (ho1 : ObjOut (reobj o b1) p.arena.used)
    (ho2 : ObjOut (reobj o b2) p.arena.used) :
    PInvG ns (reobj o b2) (((p.moveInto b1 (b1 + 8)).1).moveInto b2 (b2 + 8)).1 live := by
  have hm := C12_pool_move_keeps_invariant ns o p live b1 hI h1 ho1
  have : reobj (reobj o b1) b2 = reobj o b2 := by cases o <;> rfl
  rw [← this]
  exact C12_pool_move_keeps_invariant ns (reobj o b1) _ live b2 hm h2 (by rw [this]; exact ho2)

end MemVerif.Props.C12Pool
