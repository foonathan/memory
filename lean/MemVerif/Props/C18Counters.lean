import MemVerif.Lemmas.Iter
import MemVerif.Lemmas.StackAlloc
/-!
C18, the counters of the bump allocators: **`capacity_left` moves by exactly what an operation consumes, and it is a true
upper bound** — a request that needs more than what is reported as left is never served from the current block /
region. For `iteration_allocator`, `capacity_left(i)` is also what `allocator_traits` reports as `max_node_size` /
`max_array_size`; for `memory_stack` the statement is about `try_allocate`.

The consumed amount is `new top - old top = fence + alignment offset + size + fence`.
-/
namespace MemVerif.Props.C18Counters
open MemVerif.Model

/-- a bump from `top` to `c` in a region ending at `e` consumes `c - top` = padding + `size` + both fences of the `e - top`
bytes that were left -/
theorem left_add_consumed {e top p c size f : Nat} (h3 : top + f ≤ p) (h4 : p + size + f = c) (h5 : c ≤ e) :
    e - c + (c - top) = e - top ∧ c - top = p - top + size + f ∧ size + 2 * f ≤ c - top := by
  have htp : top ≤ p := Nat.le_trans (Nat.le_add_right _ _) h3
  have htc : top ≤ c := h4 ▸ Nat.le_trans htp (Nat.le_trans (Nat.le_add_right _ _) (Nat.le_add_right _ _))
  have e2 : c - top = p - top + size + f := by
    rw [← h4, Nat.sub_add_comm (Nat.le_trans htp (Nat.le_add_right _ _)), Nat.sub_add_comm htp]
  exact ⟨Nat.sub_add_sub_cancel h5 htc, e2, by omega⟩

/-- **a served request moves `capacity_left` of the current region by exactly what it consumed** (`fence + padding +
size + fence`), and leaves the figures of all other regions alone -/
theorem C18_iter_capacity_exact (cfg : Cfg) (it : Iter) (hI : it.Inv) (size k : Nat) (hk : k < 48) (hs : size < 2 ^ 64)
    (hf : cfg.fence ≤ 2 ^ 16) {p : Nat} (h : (it.tryAllocate cfg size (2 ^ k)).2 = .ok p) :
    let it' := (it.tryAllocate cfg size (2 ^ k)).1
    let used := (p - it.tops.getD it.cur 0) + size + cfg.fence
    it'.capacityLeft it.cur + used = it.capacityLeft it.cur ∧ size + 2 * cfg.fence ≤ used ∧
      (∀ j, j < it.n → j ≠ it.cur → it'.capacityLeft j = it.capacityLeft j) := by
  rcases it.tryAllocate_cases cfg size (2 ^ k) with ⟨_, hr⟩ | ⟨p', c, hfa, hr⟩
  · rw [hr] at h
    cases h
  · rw [hr] at h ⊢
    cases h
    obtain ⟨hI', _, a3, a4, a5, hc, a6⟩ := Iter.alloc_step cfg it hI hk hs hf hfa
    obtain ⟨e1, e2, e3⟩ := left_add_consumed (e := it.blockEnd it.cur) a3 a4 a5
    dsimp only
    rw [← e2]
    refine ⟨?_, e3, fun j hj hne => ?_⟩
    · rw [Iter.capacityLeft_eq _ hI' hI.cur, it.capacityLeft_eq hI hI.cur, hc]
      exact e1
    · rw [Iter.capacityLeft_eq _ hI' hj, it.capacityLeft_eq hI hj, a6 j hne]
      rfl

/-- **`capacity_left` is a true upper bound**: whatever is served fits into what was reported (fences included), so a
request of more than `capacity_left() - 2 * fence` bytes is refused (`try_allocate` answers null, `allocate` throws) -/
theorem C18_iter_capacity_bound (cfg : Cfg) (it : Iter) (hI : it.Inv) (size k : Nat) (hk : k < 48) (hs : size < 2 ^ 64)
    (hf : cfg.fence ≤ 2 ^ 16) (habove : it.capacityLeft it.cur < size + 2 * cfg.fence) :
    (it.tryAllocate cfg size (2 ^ k)).2 = .null ∧ (it.tryAllocate cfg size (2 ^ k)).1 = it := by
  rcases it.tryAllocate_cases cfg size (2 ^ k) with ⟨_, hr⟩ | ⟨p, c, _, hr⟩
  · rw [hr]
    exact ⟨rfl, rfl⟩
  · have hout : (it.tryAllocate cfg size (2 ^ k)).2 = .ok p := by rw [hr]
    obtain ⟨b1, b2, _⟩ := C18_iter_capacity_exact cfg it hI size k hk hs hf hout
    -- it was served, so `size + 2 * fence` is at most what it consumed, which is at most what was left
    exact absurd (Nat.le_trans b2 (b1 ▸ Nat.le_add_left _ _)) (Nat.not_le.2 habove)

/-- the figures of a freshly constructed allocator are the lengths of its regions (they tile the block:
`C07_regions_partition`), so `capacity_left(i)` of consecutive regions telescopes to the block size -/
theorem C18_iter_fresh_capacity (it : Iter) (hI : it.Inv) {i : Nat} (hi : i < it.n) (hfresh : it.tops.getD i 0 = it.blockStart i) :
    it.capacityLeft i = it.blockStart (i + 1) - it.blockStart i := by
  rw [it.capacityLeft_eq hI hi, hfresh]; rfl

/-- `memory_stack::try_allocate`: `capacity_left()` drops by exactly `new top - old top = fence + padding + size +
fence`, and a request needing more than what is left is answered with null and changes nothing -/
theorem C18_stack_capacity_exact (cfg : Cfg) (s : MemStack) (size k : Nat) (hk : k < 64) {e : Nat} (hbe : s.blockEnd = some e)
    (hce : s.cur ≤ e) (he : e < 2 ^ 64) (hs : size < 2 ^ 64) (hf : s.cur + cfg.fence + cfg.fence + 2 ^ k < 2 ^ 64)
    (hend : (s.tryAllocate cfg size (2 ^ k)).1.blockEnd = some e) :
    (∀ p, (s.tryAllocate cfg size (2 ^ k)).2 = .ok p →
      ∃ used, s.capacityLeft = some ((s.tryAllocate cfg size (2 ^ k)).1.capacityLeft.getD 0 + used) ∧
        used = (s.tryAllocate cfg size (2 ^ k)).1.cur - s.cur ∧ size + 2 * cfg.fence ≤ used ∧
        s.cur + cfg.fence ≤ p ∧ p + size + cfg.fence = (s.tryAllocate cfg size (2 ^ k)).1.cur) ∧
    (s.capacityLeft.getD 0 < size + 2 * cfg.fence →
      (s.tryAllocate cfg size (2 ^ k)).2 = .null ∧ (s.tryAllocate cfg size (2 ^ k)).1 = s) := by
  have hcl : ∀ c, c ≤ e → ({ s with cur := c } : MemStack).capacityLeft = some (e - c) := fun c hc => by
    rw [MemStack.capacityLeft, show ({ s with cur := c } : MemStack).blockEnd = some e from hbe, Option.map_some,
      sub64_eq hc he]
  obtain ⟨fs, h, -⟩ := MemStack.tryAllocate_shape cfg s size (2 ^ k)
  generalize s.tryAllocate cfg size (2 ^ k) = res at h hend ⊢
  cases h with
  | crash he' =>
    rw [hbe] at he'
    cases he'
  | null => exact ⟨nofun, fun _ => ⟨rfl, rfl⟩⟩
  | ok he' hfa =>
    cases hbe.symm.trans he'
    obtain ⟨_, h2, _, h4, h5⟩ := fixedAllocate_spec hk hce he hs hf hfa
    obtain ⟨e1, _, e3⟩ := left_add_consumed h2 h4.symm h5
    rw [hcl _ hce, hcl _ h5]
    dsimp only
    refine ⟨fun p hp => ?_, fun hlt => ?_⟩
    · cases hp
      exact ⟨_, congrArg some e1.symm, rfl, e3, h2, h4.symm⟩
    · -- it was served, so `size + 2 * fence ≤ c - cur ≤ e - cur`
      exact absurd (Nat.le_trans e3 (e1 ▸ Nat.le_add_left _ _)) (Nat.not_le.2 hlt)

/-- the hypotheses are satisfiable (a test, labelled as a test): `iteration_allocator<3>` over a 101-byte block — a size not
divisible by `N` — satisfies the invariant; the three fresh regions report 33 + 34 + 34 = 101 bytes -/
def demoIter : Iter := { n := 3, src := .fixed 101, block := ⟨4096, 101⟩, tops := [4096, 4129, 4163], cur := 0 }

example : demoIter.Inv := by
  refine ⟨⟨by decide, by decide, by decide, by decide, by decide⟩, by decide, by decide, ?_⟩
  intro i hi
  have : i = 0 ∨ i = 1 ∨ i = 2 := by
    have : i < 3 := hi
    omega
  rcases this with rfl | rfl | rfl <;> decide

example : demoIter.capacityLeft 0 + demoIter.capacityLeft 1 + demoIter.capacityLeft 2 = demoIter.block.size := by decide

end MemVerif.Props.C18Counters
