import MemVerif.Lemmas.PoolInv
import MemVerif.Lemmas.GrowCap
/-!
# C01 — `memory_pool` over the unordered free list: live allocations never overlap

Model: `Pool` (Model/Pool.lean) with `list = .free _`, run by the ghost-instrumented histories of `Model/PoolRun.lean`:
`GPool` = pool + the caller's ledger `live` of `(address, bytes)` handed out and not yet released; `POp` = the four
allocation calls and the release of a live allocation with the parameters it was taken with.

Invariant `GInv g` (`PInv`, `ListInv`): the list is an unordered free list with `0 < ns` and `cap = nodes.length`; the
used blocks are well formed and pairwise disjoint; the cells `[x, x + ns)` of the free nodes and those of the live
allocations (`cellsOf ns bytes` consecutive cells from the allocation's address: one for a node, `ceil(bytes / ns)` for an
array) are pairwise disjoint, and each free cell and each live allocation lies in the usable part of one used block.

Environment: the block source hands out well-formed, pairwise disjoint blocks. This enters as `BlocksOk` on the
used-block list of the **final** state, which holds every block the pool held at any point of the history
(`C01_pool_used_monotone`: an uncached pool arena releases nothing before destruction). It is decidable and is checked
by `decide` in the examples below (a history that grows the pool included).

All theorems hold for every configuration, environment (upstream failures included), node size and history. The one
extra hypothesis, `POp.Fits`, is forced by a defect: see `C01_pool_allocArray_overflow_cex`.
-/
namespace MemVerif.Props.C01
open MemVerif.Model

/-- The constructor establishes the invariant: for every configuration, block source, requested node size,
environment and outcome of the constructor's block request (success, upstream failure, missing answer), the
fresh pool with an empty ledger satisfies `GInv` — given that the first block (if one was obtained) is well formed. -/
theorem C01_pool_create (cfg : Cfg) (src : Src) (nodeSize : Nat) (arrays : Bool) (env : List (Option Nat))
    (henv : BlocksOk (Pool.create cfg src (.free (FreeList.new nodeSize)) arrays env).st.arena.used) :
    GInv ⟨(Pool.create cfg src (.free (FreeList.new nodeSize)) arrays env).st, []⟩ :=
  (Pool.create_inv cfg src nodeSize arrays env henv).ginv

/-- The used-block list only grows along a history: the list at the start is a suffix of the list at the end.
(Hence the final list contains every block ever acquired, which legitimises stating `BlocksOk` on the final list.) -/
theorem C01_pool_used_monotone (cfg : Cfg) (e : EnvS) (g : GPool) (k : Nat) (ops : List POp) :
    g.p.arena.used <:+ (g.run cfg e k ops).1.p.arena.used :=
  GPool.run_used_suffix cfg e ops g k

/-- **The invariant is inductive**: it is preserved by every history.
`_partial`: the hypothesis `hfit` (every `allocate_array(n)` request has `n * node_size() < 2^64`) cannot be dropped,
see `C01_pool_allocArray_overflow_cex`. The node size does not change along the history. -/
theorem C01_pool_invariant_partial (cfg : Cfg) (e : EnvS) (g : GPool) (k : Nat) (ops : List POp) (hI : GInv g)
    (hfit : ∀ op ∈ ops, op.Fits g.p.nodeSize)
    (henv : BlocksOk (g.run cfg e k ops).1.p.arena.used) :
    GInv (g.run cfg e k ops).1 ∧ (g.run cfg e k ops).1.p.nodeSize = g.p.nodeSize := by
  have h := GPool.run_inv cfg e ops g k hI hfit henv
  exact ⟨h.ginv, h.nodeSize⟩

/-- **C01 (live allocations).** At the end of any contract-respecting history — hence, every prefix of a history
being a history, at every point of it — the byte ranges `[a, a + bytes)` handed out and not yet released are
pairwise disjoint, and each lies inside the usable part (after the arena's header) of a block the pool obtained
from its block source and still holds.
`_partial` because of `hfit` (no `size_t` overflow in `n * node_size()`), see `C01_pool_allocArray_overflow_cex`. -/
theorem C01_pool_live_disjoint_inside_partial (cfg : Cfg) (e : EnvS) (g : GPool) (k : Nat) (ops : List POp)
    (hI : GInv g) (hfit : ∀ op ∈ ops, op.Fits g.p.nodeSize)
    (henv : BlocksOk (g.run cfg e k ops).1.p.arena.used) :
    (g.run cfg e k ops).1.live.Pairwise (fun r s => r.1 + r.2 ≤ s.1 ∨ s.1 + s.2 ≤ r.1) ∧
    ∀ r ∈ (g.run cfg e k ops).1.live, ∃ b ∈ (g.run cfg e k ops).1.p.arena.used,
      b.usable.base ≤ r.1 ∧ r.1 + r.2 ≤ b.usable.base + b.usable.size := by
  obtain ⟨l, _, _, hL⟩ := GPool.run_inv cfg e ops g k hI hfit henv
  exact ⟨hL.toCell.live_disjoint, hL.toCell.live_inside⟩

/-- **C01 (frame).** At the end of any contract-respecting history the pool's list is still an unordered free list,
and every cell `[x, x + ns)` of a node on it — the only memory into which the allocator writes its link words and
debug fill patterns — is disjoint from every live byte range; the free cells are also pairwise disjoint and lie in
the usable parts of used blocks. `_partial` because of `hfit`, as above. -/
theorem C01_pool_frame_partial (cfg : Cfg) (e : EnvS) (g : GPool) (k : Nat) (ops : List POp)
    (hI : GInv g) (hfit : ∀ op ∈ ops, op.Fits g.p.nodeSize)
    (henv : BlocksOk (g.run cfg e k ops).1.p.arena.used) :
    ∃ l, (g.run cfg e k ops).1.p.list = .free l ∧ l.ns = g.p.nodeSize ∧
      (∀ x ∈ l.nodes, ∀ r ∈ (g.run cfg e k ops).1.live, x + l.ns ≤ r.1 ∨ r.1 + r.2 ≤ x) ∧
      l.nodes.Pairwise (fun x y => x + l.ns ≤ y ∨ y + l.ns ≤ x) ∧
      ∀ x ∈ l.nodes, ∃ b ∈ (g.run cfg e k ops).1.p.arena.used,
        b.usable.base ≤ x ∧ x + l.ns ≤ b.usable.base + b.usable.size := by
  obtain ⟨l, hl, hns, hL⟩ := GPool.run_inv cfg e ops g k hI hfit henv
  exact ⟨l, hl, hns, hL.toCell.frame, hL.toCell.free_disjoint, hL.toCell.free_inside⟩

/-- **C01 at every point of a history.** Split any history as `ops1 ++ ops2`; under the environment hypothesis on
the end of the *whole* history, the state reached after `ops1` satisfies the invariant, its live ranges are pairwise
disjoint and inside used blocks, and its free cells are disjoint from them. -/
theorem C01_pool_every_point_partial (cfg : Cfg) (e : EnvS) (g : GPool) (k : Nat) (ops1 ops2 : List POp)
    (hI : GInv g) (hfit : ∀ op ∈ ops1 ++ ops2, op.Fits g.p.nodeSize)
    (henv : BlocksOk (g.run cfg e k (ops1 ++ ops2)).1.p.arena.used) :
    let g' := (g.run cfg e k ops1).1
    GInv g' ∧
      g'.live.Pairwise (fun r s => r.1 + r.2 ≤ s.1 ∨ s.1 + s.2 ≤ r.1) ∧
      (∀ r ∈ g'.live, ∃ b ∈ g'.p.arena.used, b.usable.base ≤ r.1 ∧ r.1 + r.2 ≤ b.usable.base + b.usable.size) ∧
      ∃ l, g'.p.list = .free l ∧ ∀ x ∈ l.nodes, ∀ r ∈ g'.live, x + l.ns ≤ r.1 ∨ r.1 + r.2 ≤ x := by
  intro g'
  have henv' : BlocksOk g'.p.arena.used := henv.suffix (GPool.run_used_prefix cfg e g k ops1 ops2)
  have hfit' : ∀ op ∈ ops1, op.Fits g.p.nodeSize := fun op h => hfit op (List.mem_append_left _ h)
  have h := GPool.run_inv cfg e ops1 g k hI hfit' henv'
  have ⟨l, hl, _, hL⟩ := h
  exact ⟨h.ginv, hL.toCell.live_disjoint, hL.toCell.live_inside, l, hl, hL.toCell.frame⟩

/-- What the environment hypothesis `BlocksOk` says each time a block is acquired (pushed on `used`): the new block
is well formed and disjoint from every block already in use. -/
theorem C01_envOk_cons (b : Blk) (used : List Blk) :
    BlocksOk (b :: used) ↔ b.Wf ∧ (∀ c ∈ used, b.Disj c) ∧ BlocksOk used := by
  unfold BlocksOk
  simp only [List.mem_cons, forall_eq_or_imp, List.pairwise_cons]
  constructor
  · rintro ⟨⟨h1, h2⟩, h3, h4⟩
    exact ⟨h1, h3, h2, h4⟩
  · rintro ⟨h1, h3, h2, h4⟩
    exact ⟨⟨h1, h2⟩, h3, h4⟩

/-- **C01 from construction**: a pool built by `memory_pool(node_size, block_size, ...)` and then driven through any
history has, at the end, pairwise disjoint live ranges inside its blocks, and free cells disjoint from them. -/
theorem C01_pool_from_create_partial (cfg : Cfg) (src : Src) (nodeSize : Nat) (arrays : Bool) (e : EnvS)
    (ops : List POp) (hfit : ∀ op ∈ ops, op.Fits (intrusiveNodeSize nodeSize)) :
    let g0 : GPool := ⟨(Pool.create cfg src (.free (FreeList.new nodeSize)) arrays [e 0]).st, []⟩
    let k0 := usedAnswers (Pool.create cfg src (.free (FreeList.new nodeSize)) arrays [e 0]).ev
    let g := (g0.run cfg e k0 ops).1
    BlocksOk g.p.arena.used →
      g.live.Pairwise (fun r s => r.1 + r.2 ≤ s.1 ∨ s.1 + s.2 ≤ r.1) ∧
      (∀ r ∈ g.live, ∃ b ∈ g.p.arena.used, b.usable.base ≤ r.1 ∧ r.1 + r.2 ≤ b.usable.base + b.usable.size) ∧
      ∃ l, g.p.list = .free l ∧ ∀ x ∈ l.nodes, ∀ r ∈ g.live, x + l.ns ≤ r.1 ∨ r.1 + r.2 ≤ x := by
  intro g0 k0 g henv
  have h0 : PInv (intrusiveNodeSize nodeSize) g0.p g0.live :=
    Pool.create_inv cfg src nodeSize arrays [e 0] (henv.suffix (GPool.run_used_suffix cfg e ops g0 k0))
  obtain ⟨l, hl, _, hL⟩ := GPool.run_inv cfg e ops g0 k0 h0 hfit henv
  exact ⟨hL.toCell.live_disjoint, hL.toCell.live_inside, l, hl, hL.toCell.frame⟩

/-- Allocation and release agree on the footprint: releasing a live array `(a, bytes)` (`bytes > ns`) through
`deallocate_array` always succeeds under the invariant (no crash / handler), and the invariant holds afterwards —
the `ceilNodes bytes ns` cells re-inserted are exactly the cells `allocate(bytes)` had removed (D3 repair). -/
theorem C01_pool_release_array (cfg : Cfg) (g : GPool) (i a bytes : Nat) (hI : GInv g)
    (hi : g.live[i]? = some (a, bytes)) (hb : g.p.nodeSize < bytes) :
    (g.p.deallocateBytes cfg a bytes).out = .done ∧
      GInv ⟨(g.p.deallocateBytes cfg a bytes).st, g.live.eraseIdx i⟩ := by
  obtain ⟨T0, B0, hR⟩ := PInv_iff.mp hI
  have h := Pool.release_invR cfg hR trivial hi
  rw [if_pos hb] at h
  exact ⟨h.2, (PInv_iff.mpr ⟨_, _, h.1⟩).ginv⟩

/-- the search `allocate(n)` runs takes exactly `ceilNodes need ns` address-consecutive cells (never more), which
is what `deallocate(ptr, n)` gives back -/
theorem C01_searchArray_exact {ns need : Nat} {nodes : List Nat} {s L : Nat} (hns : 0 < ns) (hneed : ns < need)
    (h : searchArray ns need nodes = some (s, L)) :
    ∃ A f B, nodes = A ++ blockNodes f ns L ++ B ∧ A.length = s ∧ L = ceilNodes need ns ∧ 2 ≤ L :=
  let ⟨A, f, B, h1, h2, h3, h4, _⟩ := searchArray_split hns hneed h
  ⟨A, f, B, h1, h2, h3, h4⟩

/-! ### the hypothesis `POp.Fits` is necessary (a defect of the library) -/

/-- **Counterexample without `hfit`** (`memory_pool::allocate_array(n)` computes `n * node_size()` in `size_t`
without an overflow check). Node size 8, one block `[1000, 1096)`, ten free nodes; `allocate_array(2^61 + 2)`:
the byte count wraps to 16, the size check passes, two nodes are handed out — the caller, who asked for
`2^61 + 2` nodes, holds a "live range" of `2^64 + 16` bytes at 1016 which is not inside any block of the pool.
The start state satisfies `GInv` and the environment hypothesis holds. -/
theorem C01_pool_allocArray_overflow_cex :
    let g0 : GPool := ⟨(Pool.create {} (.growing 2 1 96) (.free (FreeList.new 8)) true [some 1000]).st, []⟩
    let g1 := (g0.run {} (fun _ => none) 0 [.allocArray (2 ^ 61 + 2)]).1
    GInv g0 ∧ BlocksOk g1.p.arena.used ∧ g1.p.arena.used = [⟨1000, 96⟩] ∧
      g1.live = [(1016, 2 ^ 64 + 16)] ∧
      ¬ ∃ b ∈ g1.p.arena.used, b.usable.base ≤ 1016 ∧ 1016 + (2 ^ 64 + 16) ≤ b.usable.base + b.usable.size := by
  refine ⟨C01_pool_create _ _ _ _ _ (by decide), by decide, by decide, by decide, by decide⟩

/-- a concrete pool state with two free nodes, a live 3-node array and a live node satisfies the invariant -/
example : GInv
    ⟨{ arena := { src := .fixed 0, isCached := false, used := [⟨1000, 96⟩] },
       list := .free { ns := 8, nodes := [1016, 1056], cap := 2 }, arrays := true },
     [(1024, 24), (1048, 8)]⟩ :=
  ⟨_, rfl, rfl,
    { nsPos := by decide, cap := by decide, blocks := by decide, apart := by decide,
      freeIn := by decide, liveIn := by decide }⟩

/-- the hypotheses of the history theorems are jointly satisfiable on a history that grows the pool (second block
at 5000), allocates nodes and arrays, fails a `try_`, and releases an array; the conclusion is not vacuous (five
live allocations at the end) -/
example :
    let cfg : Cfg := {}
    let e : EnvS := fun k => if k = 0 then some 1000 else if k = 1 then some 5000 else none
    let ops : List POp := [.allocNode, .allocArray 3, .allocArray 6, .tryAllocArray 2, .dealloc 1, .allocNode,
      .allocArray 7, .allocArray 7, .tryAllocArray 100]
    let g0 : GPool := ⟨(Pool.create cfg (.growing 2 1 96) (.free (FreeList.new 8)) true [e 0]).st, []⟩
    let g := (g0.run cfg e 1 ops).1
    (∀ op ∈ ops, op.Fits (intrusiveNodeSize 8)) ∧ BlocksOk g.p.arena.used ∧ g.p.arena.used.length = 2 ∧
      g.live.length = 5 := by
  decide +kernel

/-! ### Collections: what an empty bucket is given always holds a node (D31)

`memory_pool_collection` gives an empty free list `def_capacity(pool)` bytes. In the pinned version this was the plain
share `block size / number of lists`, which the constructor only checks against `max_node_size`: a small node list
needs `chunk_memory_offset` more, got a range in which not one chunk fits, and `insert` linked a list of zero chunks
through a null pointer (`coll-small-identity`, block 10065, `allocate_node(99)`). The repaired `def_capacity(pool)`
raises the share until `usable_size` reaches one node; the model's loop has a fuel of 64 rounds, and the theorems below
show that the fuel is never what ends it. -/

/-- small node list: from every default capacity the reserved range holds at least one node -/
theorem C01_coll_reservation_holds_a_node_small (l : SmallList) (hn : l.ns < 2^32) (h0 : 0 < l.ns) (cap : Nat)
    (hc : cap < 2^39) :
    l.ns ≤ (AnyList.small l).usableSize (growCapacity (.small l) 64 cap) := by
  have hn' : 32 + l.ns * 255 < 2 ^ 64 := by omega
  by_cases h : cap ≤ 32
  · exact growCapacity_enough_small l hn' h0 64 cap h (by omega)
  · exact growCapacity_small_above l hn' 62 cap (Nat.lt_trans hc (by decide)) (Nat.lt_of_not_le h)

/-- unordered node list: the same (one round suffices) -/
theorem C01_coll_reservation_holds_a_node_free (l : FreeList) (hn : l.ns < 2^32) (h0 : 0 < l.ns) (cap : Nat)
    (hc : cap < 2^39) :
    l.ns ≤ (AnyList.free l).usableSize (growCapacity (.free l) 64 cap) :=
  growCapacity_enough_free l (by omega) h0 64 cap (by omega) (by omega)

/-- the pinned version's share for the failing input: 100 bytes for the 99-byte list hold no node, the repaired
capacity is `99 + 32` -/
example : (AnyList.small (SmallList.new 99 0)).usableSize 100 = 68 ∧
    growCapacity (.small (SmallList.new 99 0)) 64 100 = 131 ∧
    (AnyList.small (SmallList.new 99 0)).usableSize 131 = 99 := by decide

end MemVerif.Props.C01
