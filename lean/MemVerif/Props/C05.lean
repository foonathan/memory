import MemVerif.Lemmas.Arena
/-!
# C05 — every upstream block is returned exactly once, unchanged, in reverse order

Model: `MemVerif.Model.Arena` (two LIFO block stacks + block source) and the `ledger` replay of the upstream
event log (ArenaRun.lean). Statements hold for cached and uncached arenas, growing and fixed sources, every
history of allocate_block / deallocate_block / shrink_to_fit, and **every** upstream environment `e`
(an upstream failure is an environment that answers `none` at that position: all failure positions are covered).
-/
namespace MemVerif.Props.C05
open MemVerif.Model

/-- **LIFO, unchanged, exactly once.** For any history followed by destruction, the upstream log replays as a stack:
every release returns the most recently acquired outstanding block with the address and size it was acquired with,
and at the end nothing is outstanding. -/
theorem C05_lifo_balanced (cfg : Cfg) (e : EnvS) (src : Src) (hsrc : src.isUpstream = true) (cached : Bool)
    (ops : List AOp) :
    let a0 : Arena := { src := src, isCached := cached }
    let r := a0.runOps cfg e 0 ops
    ledger [] (r.2.2 ++ (r.1.destroy cfg).2.1) = some [] := by
  intro a0 r
  obtain ⟨h1, h2⟩ := Arena.runOps_sync cfg e a0 0 ops ⟨hsrc, fun _ => rfl⟩
  have h2' : ledger [] r.2.2 = some (r.1.cached.reverse ++ r.1.used) := h2
  rw [ledger_append_of_eq h2']
  exact Arena.destroy_ledger cfg r.1 h1

/-- **Acquisition order invariant**: at every point of every history the outstanding blocks, most recent first, are
the cache (deepest = most recent) followed by the used blocks. -/
theorem C05_acquisition_order (cfg : Cfg) (e : EnvS) (src : Src) (hsrc : src.isUpstream = true) (cached : Bool)
    (ops : List AOp) :
    let a0 : Arena := { src := src, isCached := cached }
    let r := a0.runOps cfg e 0 ops
    ledger [] r.2.2 = some (r.1.cached.reverse ++ r.1.used) := by
  intro a0 r
  exact (Arena.runOps_sync cfg e a0 0 ops ⟨hsrc, fun _ => rfl⟩).2

/-- **Cached blocks are reused before any new block is requested.** -/
theorem C05_cache_first (a : Arena) (c : Blk) (cs : List Blk) (env : List (Option Nat))
    (hc : a.isCached = true) (hcs : a.cached = c :: cs) :
    ∃ a', a.allocateBlock env = .ok a' c.usable [] env ∧ a'.used = c :: a.used ∧ a'.cached = cs ∧ a'.src = a.src := by
  refine ⟨{ a with used := c :: a.used, cached := cs }, ?_, rfl, rfl, rfl⟩
  unfold Arena.allocateBlock
  rw [hc, hcs]

/-- **A failing upstream leaves the arena's blocks as they were** (and the failure propagates). -/
theorem C05_failure_keeps_blocks (a : Arena) (env : List (Option Nat)) (a' : Arena) (ex : Exn) (ev : List UpEv)
    (env' : List (Option Nat)) (h : a.allocateBlock env = .fail a' ex ev env') :
    a'.used = a.used ∧ a'.cached = a.cached ∧ a'.src = a.src ∧ newBlocks ev = [] := by
  obtain ⟨rfl, h2, _⟩ := Arena.allocateBlock_fail h
  exact ⟨rfl, rfl, rfl, h2⟩

/-- **A moved-from arena is inert**: destroying it makes no upstream call (C12). -/
theorem C05_moved_from_inert (cfg : Cfg) (a : Arena) : (a.movedFrom.destroy cfg).2.1 = [] := by
  simp [Arena.movedFrom, Arena.destroy, Arena.shrinkToFit, releaseAll]

end MemVerif.Props.C05
