import MemVerif.Lemmas.StackAlloc
/-!
# C02 — returned memory honours the requested size, count and alignment

Part 1: the bump-stack family (`fixed_memory_stack::allocate`, which is the allocation path of
`static_allocator`, `memory_stack::try_allocate`, `iteration_allocator::try_allocate`, the joint stack and the
pool collection's block carving). Alignments are *all* powers of two (over-aligned requests included), any fence size.
-/
namespace MemVerif.Props.C02
open MemVerif.Model

/-- A served request is aligned, preceded and followed by its fences, `size` bytes long, and stays inside `[cur, end]`. -/
theorem C02_stack_aligned_sized {cur end_ size k fence p c : Nat} (hk : k < 64)
    (hce : cur ≤ end_) (he : end_ < 2 ^ 64) (hs : size < 2 ^ 64) (hf : cur + fence + fence + 2 ^ k < 2 ^ 64)
    (h : fixedAllocate cur end_ size (2 ^ k) fence = some (p, c)) :
    p % 2 ^ k = 0 ∧ cur + fence ≤ p ∧ p < cur + fence + 2 ^ k ∧ c = p + size + fence ∧ c ≤ end_ :=
  fixedAllocate_spec hk hce he hs hf h

/-- A request that fits is served: null is returned only when the memory really is insufficient. -/
theorem C02_stack_no_spurious_null {cur end_ size k fence : Nat} (hk : k < 64) (hc0 : cur ≠ 0)
    (hce : cur ≤ end_) (he : end_ < 2 ^ 64) (hs : size < 2 ^ 64) (hf : cur + fence + fence + 2 ^ k < 2 ^ 64)
    (hfit : fence + alignOff (cur + fence) (2 ^ k) + size + fence ≤ end_ - cur) :
    ∃ p c, fixedAllocate cur end_ size (2 ^ k) fence = some (p, c) :=
  ⟨_, _, (fixedAllocate_eq_some hk hce he hs hf _ _).2 ⟨hc0, rfl, rfl, by
    simpa only [Nat.add_assoc] using Nat.add_le_of_le_sub' hce hfit⟩⟩

/-- `static_allocator::allocate_node`: aligned, sized, inside the storage, and the top only moves up. -/
theorem C02_static_allocator (cfg : Cfg) (s s' : Static) (size k p : Nat) (hk : k < 64)
    (hce : s.cur ≤ s.end_) (he : s.end_ < 2 ^ 64) (hs : size < 2 ^ 64) (hf : s.cur + cfg.fence + cfg.fence + 2 ^ k < 2 ^ 64)
    (h : s.allocateNode cfg size (2 ^ k) = (s', .ok p)) :
    p % 2 ^ k = 0 ∧ s.cur ≤ p ∧ p + size ≤ s'.cur ∧ s'.cur ≤ s.end_ ∧ s'.end_ = s.end_ := by
  unfold Static.allocateNode at h
  split at h
  · cases h
  · rename_i p' c hfa
    cases h
    obtain ⟨a1, a2, _, a4, a5⟩ := fixedAllocate_spec hk hce he hs hf hfa
    exact ⟨a1, Nat.le_trans (Nat.le_add_right _ _) a2, a4 ▸ Nat.le_add_right _ _, a5, rfl⟩

/-- `static_allocator` signals exhaustion by `out_of_fixed_memory` and then leaves its state unchanged. -/
theorem C02_static_failure_unchanged (cfg : Cfg) (s s' : Static) (size align : Nat) (e : Exn)
    (h : s.allocateNode cfg size align = (s', .throws e)) : s' = s ∧ e = .oofm := by
  unfold Static.allocateNode at h
  split at h
  · simp only [Prod.mk.injEq, Out.throws.injEq] at h; exact ⟨h.1.symm, h.2.symm⟩
  · simp at h

theorem bumpPtr_aligned (cfg : Cfg) (cur k : Nat) (hk : k < 64) (h : cur + cfg.fence < 2 ^ 64) :
    bumpPtr cfg cur (2 ^ k) % 2 ^ k = 0 ∧ cur + cfg.fence ≤ bumpPtr cfg cur (2 ^ k) ∧
      bumpPtr cfg cur (2 ^ k) < cur + cfg.fence + 2 ^ k := by
  have := alignOff_spec (cur + cfg.fence) k hk h
  exact ⟨this.1, Nat.le_add_right _ _, Nat.add_lt_add_left this.2 _⟩

/-- **`memory_stack::allocate` returns aligned memory** (every state, every outcome of growth, every power-of-two
alignment): the address is a multiple of the alignment. (That the padding behind the front fence is less than the
alignment, so that it is the least such address, is `bumpPtr_aligned`.) -/
theorem C02_memory_stack_allocate_aligned (cfg : Cfg) (s s' : MemStack) (size k p : Nat) (env : List (Option Nat))
    (ev : List UpEv) (hk : k < 64) (hcur : s.cur + cfg.fence < 2 ^ 64)
    (hblk : ∀ b ∈ s'.arena.used, b.base + implOff + cfg.fence < 2 ^ 64)
    (h : s.allocate cfg size (2 ^ k) env = (s', .ok p, ev)) : p % 2 ^ k = 0 := by
  obtain ⟨fs, hsh, -⟩ := MemStack.allocate_shape cfg s size (2 ^ k) env
  rw [h] at hsh
  cases hsh with
  | bump => exact (bumpPtr_aligned cfg s.cur k hk hcur).1
  | grow _ ha =>
    obtain ⟨_, blk, hu, rfl⟩ := Arena.allocateBlock_ok ha
    exact (bumpPtr_aligned cfg _ k hk (hblk blk (hu ▸ List.mem_cons_self))).1

end MemVerif.Props.C02
