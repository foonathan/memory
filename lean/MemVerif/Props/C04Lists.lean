import MemVerif.Lemmas.SmallList
/-!
# C04 (lists part) — the capacity counter equals the number of free nodes

For the unordered free list (`free_memory_list`) and the small free list (`small_free_memory_list`): the counter
`capacity_` that `capacity()`/`empty()` report is an invariant function of the actual free-node structure, every
operation keeps it so, and release undoes allocation. All statements are about the executable models of
`MemVerif.Model.Lists` and quantify over every list state, address and size.
-/
namespace MemVerif.Props.C04Lists
open MemVerif.Model

/-- the capacity counter counts the nodes on the list -/
def FreeInv (l : FreeList) : Prop := l.cap = l.nodes.length

theorem C04_free_new (ns : Nat) : FreeInv (FreeList.new ns) := rfl

theorem C04_free_insert (l l' : FreeList) (mem size : Nat) (hI : FreeInv l)
    (h : l.insertImpl mem size = some l') :
    FreeInv l' ∧ l'.cap = l.cap + size / l.ns ∧ l'.ns = l.ns := by
  obtain ⟨_, rfl⟩ := FreeList.insertImpl_eq_some.1 h
  refine ⟨?_, rfl, rfl⟩
  show l.cap + _ = List.length (_ ++ _)
  rw [List.length_append, blockNodes_length, hI, Nat.add_comm]

theorem C04_free_allocate (l l' : FreeList) (x : Nat) (hI : FreeInv l) (h : l.allocate = some (l', x)) :
    FreeInv l' ∧ l'.cap + 1 = l.cap ∧ l.nodes = x :: l'.nodes ∧ l'.ns = l.ns := by
  obtain ⟨xs, hn, rfl⟩ := FreeList.allocate_shape h
  have hc : l.cap = xs.length + 1 := by rw [hI, hn, List.length_cons]
  refine ⟨?_, ?_, hn, rfl⟩
  · show l.cap - 1 = xs.length
    rw [hc, Nat.add_sub_cancel]
  · show l.cap - 1 + 1 = l.cap
    rw [hc, Nat.add_sub_cancel]

theorem C04_free_deallocate (l : FreeList) (p : Nat) (hI : FreeInv l) :
    FreeInv (l.deallocate p) ∧ (l.deallocate p).cap = l.cap + 1 := by
  unfold FreeList.deallocate FreeInv at *
  simp [hI]

/-- **release restores**: `allocate()` followed by `deallocate` of the node it returned gives back exactly the same
list (same order, same counter). -/
theorem C04_free_allocate_deallocate_restores (l l' : FreeList) (x : Nat) (hI : FreeInv l)
    (h : l.allocate = some (l', x)) : l'.deallocate x = l := by
  obtain ⟨xs, hn, rfl⟩ := FreeList.allocate_shape h
  have hc : l.cap - 1 + 1 = l.cap := by rw [hI, hn, List.length_cons, Nat.add_sub_cancel]
  cases l
  simp only at hn hc
  rw [FreeList.deallocate, hc, hn]

/-- the invariant is needed: with a wrong counter the round trip changes the counter -/
theorem C04_free_restore_needs_inv :
    let l : FreeList := { ns := 8, nodes := [64], cap := 0 }
    ∃ l' x, l.allocate = some (l', x) ∧ l'.deallocate x ≠ l := by
  refine ⟨_, _, rfl, by decide⟩

/-- **array search**: a successful `list_search_array(need)` (with `need > node_size`) returns `(start, len)` inside
the list (`start + len ≤ length`, `len ≥ 2`); the nodes at `[start, start+len)` are `a, a+ns, …` with `a` the node at
`start`; and `len = ceil(need / ns)` exactly. -/
theorem C04_searchArray_spec (ns need : Nat) (hns0 : 0 < ns) (hns : ns < need) (full : List Nat) (s len : Nat)
    (h : searchArray ns need full = some (s, len)) :
    s + len ≤ full.length ∧ 2 ≤ len ∧ len = ceilNodes need ns ∧
    ∃ a, full[s]? = some a ∧ (full.drop s).take len = blockNodes a ns len ∧
      full = full.take s ++ blockNodes a ns len ++ full.drop (s + len) := by
  obtain ⟨A, a, B, hsplit, rfl, hlen, h2, ht, hd, hg⟩ := searchArray_split hns0 hns h
  have hl : full.length = A.length + len + B.length := by
    rw [hsplit, List.length_append, List.length_append, blockNodes_length]
  refine ⟨by omega, h2, hlen, a, hg, ?_, ?_⟩
  · rw [hsplit, List.append_assoc, List.drop_left' rfl, List.take_left' (blockNodes_length _ _ _)]
  · rw [ht, hd]
    exact hsplit

/-- why `need > node_size` is required above: the search never accepts a run of fewer than two nodes, so for a
request that one node would satisfy the run is longer than `ceil(need / ns)` (the lists never call the search in
that case: `allocate(n)` with `n ≤ node_size` takes the single-node path). -/
theorem C04_searchArray_min_two :
    searchArray 8 8 [64, 72] = some (0, 2) ∧ ceilNodes 8 8 = 1 := by decide

theorem C04_free_allocateBytes (l l' : FreeList) (n : Nat) (r : Option Nat) (hI : FreeInv l)
    (h : l.allocateBytes n = some (l', r)) : FreeInv l' ∧ l'.ns = l.ns := by
  by_cases hn : n ≤ l.ns
  · rw [FreeList.allocateBytes, if_pos hn] at h
    obtain ⟨⟨l1, x⟩, ha, e⟩ := Option.map_eq_some_iff.1 h
    cases e
    have := C04_free_allocate l l' x hI ha
    exact ⟨this.1, this.2.2.2⟩
  · replace hn := Nat.lt_of_not_le hn
    rcases FreeList.allocateBytes_array l l' n r hn h with ⟨_, rfl, _⟩ | ⟨s, len, hs, rfl, _⟩
    · exact ⟨hI, rfl⟩
    · have hb := searchArray_bounds l.ns n hn l.nodes s len hs
      refine ⟨?_, rfl⟩
      show l.cap - len = List.length (_ ++ _)
      rw [List.length_take_append_drop l.nodes hb.1, hI]

theorem C04_free_deallocateBytes (l l' : FreeList) (p n : Nat) (hI : FreeInv l)
    (h : l.deallocateBytes p n = some l') : FreeInv l' ∧ l'.ns = l.ns := by
  unfold FreeList.deallocateBytes at h
  split at h
  · simp only [Option.some.injEq] at h
    subst h
    exact ⟨(C04_free_deallocate l p hI).1, rfl⟩
  · have := C04_free_insert l l' p _ hI h
    exact ⟨this.1, this.2.2⟩

/-- **array release restores**: in the array case (`n > node_size`), a successful `allocate(n)` returning `a` followed
by `deallocate(a, n)` gives back the same multiset of nodes and the same counter. (The order changes: the run is
re-inserted at the front.) The run that was taken out is `a, a+ns, …` of exactly `ceil(n/ns)` nodes, which is what
`deallocate(a, n)` re-creates. -/
theorem C04_free_allocateBytes_deallocateBytes_restores (l l' : FreeList) (n a : Nat) (hI : FreeInv l)
    (hns : 0 < l.ns) (hn : l.ns < n) (h : l.allocateBytes n = some (l', some a)) :
    ∃ l'', l'.deallocateBytes a n = some l'' ∧ l''.nodes.Perm l.nodes ∧ l''.cap = l.cap ∧ l''.ns = l.ns ∧
      l''.nodes = blockNodes a l.ns (ceilNodes n l.ns) ++ l'.nodes := by
  rcases FreeList.allocateBytes_array l l' n (some a) hn h with ⟨_, _, hc⟩ | ⟨s, len, hs, rfl, hr⟩
  · cases hc
  · obtain ⟨hb, h2, hlen, a', ha', _, hsplit⟩ := C04_searchArray_spec l.ns n hns hn l.nodes s len hs
    obtain rfl : a' = a := Option.some.inj (ha'.symm.trans hr.symm)
    -- `deallocate(a, n)` cuts `ceil(n / ns)` nodes again, the length of the run that was taken
    have hk : ceilNodes n l.ns * l.ns / l.ns = len := (Nat.mul_div_cancel _ hns).trans hlen.symm
    refine ⟨_, (if_neg (Nat.not_le.2 hn)).trans (FreeList.insertImpl_eq_some.2 ⟨?_, rfl⟩), ?_, ?_, rfl, ?_⟩
    · show ceilNodes n l.ns * l.ns / l.ns ≠ 0
      rw [hk]
      exact Nat.ne_of_gt (Nat.lt_of_lt_of_le (by decide) h2)
    · show (blockNodes a' l.ns (ceilNodes n l.ns * l.ns / l.ns) ++ (l.nodes.take s ++ l.nodes.drop (s + len))).Perm l.nodes
      rw [hk, ← List.append_assoc]
      conv => rhs; rw [hsplit]
      exact List.Perm.append_right _ List.perm_append_comm
    · show l.cap - len + ceilNodes n l.ns * l.ns / l.ns = l.cap
      rw [hk]
      exact Nat.sub_add_cancel (Nat.le_trans (Nat.le_add_left _ _) (hI ▸ hb))
    · show blockNodes a' l.ns (ceilNodes n l.ns * l.ns / l.ns) ++ _ = _
      rw [Nat.mul_div_cancel _ hns]

example : ∃ l'', ({ ns := 8, nodes := [200, 300], cap := 2 } : FreeList).deallocateBytes 64 20 = some l'' ∧
    l''.nodes.Perm [200, 64, 72, 80, 300] ∧ l''.cap = 5 ∧ l''.ns = 8 ∧
    l''.nodes = blockNodes 64 8 (ceilNodes 20 8) ++ [200, 300] :=
  C04_free_allocateBytes_deallocateBytes_restores
    { ns := 8, nodes := [200, 64, 72, 80, 300], cap := 5 } { ns := 8, nodes := [200, 300], cap := 2 } 20 64 rfl
    (by decide) (by decide) (by decide)

/-! The small list's invariants `SmallInv`, `SmallCapInv` and `SmallInvS` are defined in `Lemmas/SmallList.lean`, next to the
general form `SmallAll` they are instances of (the pool proofs need them below this file). -/

theorem C04_small_new (ns P : Nat) : SmallInvS (SmallList.new ns P) := SmallInvS.new ns P

/-- `insert` (chunks built by `Chunk.make`) keeps all three forms; `ns ≥ 1` is needed for the counter
(see `C04_small_insert_ns0`). -/
theorem C04_small_insert (l l' : SmallList) (mem size : Nat) (hns : 0 < l.ns)
    (h : l.insert mem size = some l') :
    (SmallCapInv l → SmallCapInv l') ∧ (SmallInv l → SmallInv l') ∧ (SmallInvS l → SmallInvS l') ∧
    l'.cap = l.cap + (smallInsertChunks l.ns mem size).2 := by
  refine ⟨fun hI => SmallAll.insert hI hns h ?_, fun hI => SmallAll.insert hI hns h ?_, fun hI => hI.insert hns h, ?_⟩
  · intro c h1 h2
    rw [h1, h2]
    exact List.length_range.symm
  · intro c h1 h2
    rw [h1, h2, List.length_range]
    exact ⟨rfl, Nat.le_refl _⟩
  · rw [SmallList.insert_shape h]

/-- with `ns = 0` the counter would lie: `insert` reports 255 nodes per chunk but a chunk of node size 0 has none -/
theorem C04_small_insert_ns0 :
    ∃ l', (SmallList.new 0 8).insert 4096 32 = some l' ∧ l'.cap = 255 ∧ (l'.chunks.map Chunk.capacity).sum = 0 := by
  refine ⟨_, rfl, by decide, by decide⟩

/-- `allocate()` keeps all three forms and takes exactly one node off the counter -/
theorem C04_small_allocate (l l' : SmallList) (p : Nat) (h : l.allocate = some (l', p)) :
    (SmallCapInv l → SmallCapInv l' ∧ l'.cap + 1 = l.cap) ∧ (SmallInv l → SmallInv l') ∧
    (SmallInvS l → SmallInvS l') := by
  obtain ⟨i, c, idx, rest, hc, hfree, rfl, _⟩ := SmallList.allocate_shape h
  have hmem := List.mem_of_getElem? hc
  refine ⟨fun hI => ?_, fun hI => ?_, fun hI => hI.allocResult hc hfree⟩
  · exact SmallAll.pop hI hc hfree (hI.2 c hmem) id
  · obtain ⟨h1, h2⟩ := hI.2 c hmem
    rw [hfree] at h2
    exact (SmallAll.pop hI hc hfree h1 fun e => ⟨e, Nat.le_of_succ_le h2⟩).1

/-- `deallocate(p)` returning normally keeps the counter equations (in every configuration, for every pointer: even
for a double free that the disabled checks let through the counters stay consistent with the chains). -/
theorem C04_small_deallocate_cap (cfg : Cfg) (l l' : SmallList) (p : Nat) (hI : SmallCapInv l)
    (h : l.deallocate cfg p = .ok l') : SmallCapInv l' ∧ l'.cap = l.cap + 1 := by
  obtain ⟨i, c, hc, _, rfl, _⟩ := SmallList.deallocate_shape h
  refine ⟨SmallAll.push p hI hc ?_, rfl⟩
  rw [List.length_cons, hI.2 c (List.mem_of_getElem? hc)]

/-- `≤ noNodes` is **not** preserved by `deallocate` without a validity hypothesis: with the double-free check off
(the default configuration) a node that is already free is accepted again. -/
theorem C04_small_deallocate_counterexample :
    let l : SmallList := { ns := 8, P := 8, chunks := [⟨1000, 1, 1, [0]⟩], cap := 1, allocChunk := 1000, deallocChunk := 1000 }
    SmallInv l ∧ ∃ l', l.deallocate {} 1032 = .ok l' ∧ ¬ SmallInv l' := by
  intro l
  refine ⟨⟨rfl, ?_⟩, _, rfl, ?_⟩
  · intro c hc
    simp only [l, List.mem_singleton] at hc
    subst hc; exact ⟨rfl, by decide⟩
  · rintro ⟨_, h2⟩
    have := (h2 ⟨1000, 1, 1 + 1, [(1032 - (1000 + chunkOff)) / 8, 0]⟩ (by decide)).2
    revert this; decide

/-- the hypothesis that is needed: the released node is not already on its chunk's free chain (no double free).
Then the structural invariant — hence also `SmallInv` — is preserved, in every configuration. The other half of
validity, "`p` lies in the node area of the chunk found", is *established* by `find_chunk_impl` itself
(`SmallList.deallocate_shape`), it need not be assumed. `p` need not be node-aligned. -/
theorem C04_small_deallocate (cfg : Cfg) (l l' : SmallList) (p : Nat) (hI : SmallInvS l) (hns : 0 < l.ns)
    (hnf : ∀ c ∈ l.chunks, c.base + chunkOff ≤ p → p < c.base + chunkOff + c.noNodes * l.ns →
      (p - (c.base + chunkOff)) / l.ns ∉ c.free)
    (h : l.deallocate cfg p = .ok l') : SmallInvS l' ∧ SmallInv l' ∧ l'.cap = l.cap + 1 := by
  obtain ⟨i, c, hc, hfrom, rfl, _⟩ := SmallList.deallocate_shape h
  have hS := hI.deallocResult p hns hc hfrom (hnf c (List.mem_of_getElem? hc) hfrom.1 hfrom.2)
  exact ⟨hS, hS.toInv, rfl⟩

/-- with both pointer checks compiled in (`FOONATHAN_MEMORY_DEBUG_POINTER_CHECK` and `…_DOUBLE_DEALLOC_CHECK`) no
hypothesis on `p` is needed at all: a `deallocate` that returns normally has kept the invariant. -/
theorem C04_small_deallocate_checked (cfg : Cfg) (l l' : SmallList) (p : Nat) (hI : SmallInvS l) (hns : 0 < l.ns)
    (hc1 : cfg.ptrCheck = true) (hc2 : cfg.dblDealloc = true)
    (h : l.deallocate cfg p = .ok l') : SmallInvS l' ∧ SmallInv l' ∧ l'.cap = l.cap + 1 := by
  obtain ⟨i, c, hc, hfrom, rfl, hchk⟩ := SmallList.deallocate_shape h
  have hS := hI.deallocResult p hns hc hfrom (hchk hc1 hc2)
  exact ⟨hS, hS.toInv, rfl⟩

/-- instance of `C04_small_deallocate`: a chunk of 3 nodes with node 1 free; node 0 is released -/
example :
    let l : SmallList := { ns := 8, P := 8, chunks := [⟨1000, 3, 1, [1]⟩], cap := 1, allocChunk := 1000, deallocChunk := 1000 }
    ∃ l', l.deallocate {} 1032 = .ok l' ∧ SmallInvS l' ∧ SmallInv l' ∧ l'.cap = l.cap + 1 := by
  intro l
  have hI : SmallInvS l := by
    refine ⟨rfl, ?_⟩
    intro c hc
    simp only [l, List.mem_singleton] at hc
    subst hc
    exact ⟨rfl, by decide, by decide⟩
  have hnf : ∀ c ∈ l.chunks, c.base + chunkOff ≤ 1032 → 1032 < c.base + chunkOff + c.noNodes * l.ns →
      (1032 - (c.base + chunkOff)) / l.ns ∉ c.free := by
    intro c hc _ _
    simp only [l, List.mem_singleton] at hc
    subst hc
    decide
  exact ⟨_, rfl, C04_small_deallocate {} l _ 1032 hI (by decide) hnf rfl⟩

/-- instances of `C04_small_insert` / `C04_small_allocate`: the hypotheses are satisfiable (the operations succeed on
this input) and the invariant follows -/
example : ((SmallList.new 4 8).insert 4096 2000).isSome = true ∧
    ∀ l', (SmallList.new 4 8).insert 4096 2000 = some l' → SmallInvS l' :=
  ⟨by decide, fun l' h => (C04_small_insert _ l' 4096 2000 (by decide) h).2.2.1 (C04_small_new 4 8)⟩

example :
    let l : SmallList := { ns := 8, P := 8, chunks := [⟨1000, 3, 1, [1]⟩], cap := 1, allocChunk := 1000, deallocChunk := 1000 }
    l.allocate.isSome = true ∧ ∀ l' p, SmallInv l → l.allocate = some (l', p) → SmallInv l' :=
  ⟨by decide, fun l' p hI h => (C04_small_allocate _ l' p h).2.1 hI⟩

end MemVerif.Props.C04Lists
