import MemVerif.Props.C01Coll
/-!
C01 for `memory_pool_collection` over the intrusive free lists, **node and array operations**
(`allocate_node`, `try_allocate_node`, `deallocate_node`, `allocate_array`, `try_allocate_array`, `deallocate_array`,
`reserve`), every history, every bucket policy, every configuration (fence size up to `2^32`).

The ledger is a list of cells (`Model/CollRunA.lean`: an array is entered as the `k` consecutive cells of its bucket it
occupies), so "live allocations are pairwise disjoint, apart from all free memory and the list array, inside held
blocks" (`C01Coll.live_facts`) speaks about every cell of every array too.

`…_partial`: collections whose buckets are `small_node_pool` lists stay at the correspondence level (they have no
array support at all); `count * size` is the library's own `size_t` product (finding D21: it may wrap for absurd counts).
-/
namespace MemVerif.Props.C01CollArr
open MemVerif.Model

/-- **C01 (invariant), collections, node and array operations.** -/
theorem C01_coll_array_invariant_partial (cfg : Cfg) (e : EnvS) (arr arrLen : Nat) (hf : cfg.fence ≤ 2 ^ 32) (g : GCollA) (k : Nat)
    (ops : List COpA) (hfit : ∀ op ∈ ops, op.Fits) (hI : CInv arr arrLen g.c g.live)
    (henv : BlocksOk (g.run cfg e k ops).1.c.arena.used) :
    CInv arr arrLen (g.run cfg e k ops).1.c (g.run cfg e k ops).1.live :=
  (GCollA.run_kept cfg e hf ops g k hfit hI henv).inv

/-- **C01 (live allocations), collections, node and array operations**: at the end of any history — hence at every
point — all cells the caller holds (nodes and the cells of arrays) are pairwise disjoint, apart from every free cell of
every bucket and from the list array, and inside held blocks. -/
theorem C01_coll_array_live_disjoint_inside_partial (cfg : Cfg) (e : EnvS) (arr arrLen : Nat) (hf : cfg.fence ≤ 2 ^ 32)
    (g : GCollA) (k : Nat) (ops : List COpA) (hfit : ∀ op ∈ ops, op.Fits) (hI : CInv arr arrLen g.c g.live)
    (henv : BlocksOk (g.run cfg e k ops).1.c.arena.used) :
    let g' := (g.run cfg e k ops).1
    (g'.live.map fun as => (as.1, g'.c.nsOf as.2)).Pairwise (fun r s => r.1 + r.2 ≤ s.1 ∨ s.1 + s.2 ≤ r.1) ∧
    (∀ as ∈ g'.live, ∃ b ∈ g'.c.arena.used, b.usable.base ≤ as.1 ∧ as.1 + g'.c.nsOf as.2 ≤ b.usable.base + b.usable.size) ∧
    (∀ as ∈ g'.live, ∀ l ∈ g'.c.lists, ∀ x ∈ l.cells, as.1 + g'.c.nsOf as.2 ≤ x ∨ x + l.nodeSize ≤ as.1) ∧
    (∀ as ∈ g'.live, as.1 + g'.c.nsOf as.2 ≤ arr ∨ arr + arrLen ≤ as.1) :=
  C01Coll.live_facts (GCollA.run_kept cfg e hf ops g k hfit hI henv).inv

/-- **An array is whole and contiguous**: the cells entered for an array of `count * size` bytes at `a` are the
`ceil(count*size / ns)` (one, if it fits a node) consecutive cells `a, a + ns, …` of its bucket — together at least
`count * size` bytes when the product does not wrap. -/
theorem C01_coll_array_cells (ns a s count size : Nat) (hns : 0 < ns) :
    (∀ x, (x, s) ∈ arrEntries ns a s (arrCells ns count size) ↔ ∃ t, t < arrCells ns count size ∧ x = a + t * ns) ∧
    mul64 count size ≤ arrCells ns count size * ns :=
  ⟨fun _ => mem_arrEntries, le_cellsOf_mul _ _ hns⟩

/-- **Releasing an array the caller holds always succeeds** and removes exactly its cells from the ledger. -/
theorem C01_coll_array_release_succeeds (cfg : Cfg) {arr arrLen : Nat} {c : Coll} {live : List (Nat × Nat)}
    (h : CInv arr arrLen c live) {a count s : Nat} {l : AnyList} (hl : c.lists[c.listIndex s]? = some l)
    (hsub : ∀ x ∈ arrEntries l.nodeSize a s (arrCells l.nodeSize count s), x ∈ live) :
    (c.deallocateArray cfg a count s).out = .done ∧ (c.deallocateArray cfg a count s).ev = [] ∧
      CInv arr arrLen (c.deallocateArray cfg a count s).st (removeEntries live (arrEntries l.nodeSize a s (arrCells l.nodeSize count s))) :=
  Coll.deallocateArray_inv cfg h hl hsub

/-- the hypotheses are satisfiable (a test, labelled as a test): an `array_pool` collection (ordered lists, identity
buckets, fences) through a history with arrays of several buckets, growth, releases in another order -/
def demo : Bool :=
  let cfg : Cfg := { fence := 8, dblDealloc := true, assert := true }
  let e : EnvS := fun k => if k = 0 then some 4096 else if k = 1 then some 65536 else if k = 2 then some 300000 else none
  let ops : List COpA := [.allocArray 3 16, .node (.allocNode 16), .allocArray 5 24, .tryAllocArray 2 16, .deallocArray 2,
    .allocArray 40 16, .node (.allocNode 24), .deallocArray 0, .allocArray 4 8, .node (.dealloc 0), .tryAllocArray 1000 8,
    .reserve 20 500]
  match Coll.create cfg (.growing 2 1 2000) "ord" .identity true 24 [e 0] with
  | (some c0, _, _) =>
    let g := (GCollA.run cfg e { c := c0 } 1 ops).1
    decide (BlocksOk c0.arena.used) && decide (BlocksOk g.c.arena.used) && decide (g.arrs.length = 3) && decide (10 < g.live.length)
  | _ => false

example : demo = true := by decide +kernel

end MemVerif.Props.C01CollArr
