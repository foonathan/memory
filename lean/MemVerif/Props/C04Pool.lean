import MemVerif.Props.C01Ord
/-!
# C04 — no capacity is lost over any history (`memory_pool` over each of the three free lists)

The pool invariant `PInvG` (`Lemmas/PoolInv.lean`) carries an **exact accounting** clause: at every point of every
history, the number of free cells plus the number of cells occupied by live allocations equals the number of cells the
blocks in use were cut into (`usable size / node size` per block). Together with C01 (cells pairwise disjoint, inside
the blocks) this says that every cell of every block is either on the free list or part of exactly one live
allocation: releasing a node or an array makes exactly the memory that was taken available again, arrays included
(`ceil(n / node_size)` cells both ways, the D3 repair), in any order of releases, for the unordered, the ordered and
the small node list, in every configuration. For the intrusive lists the cells of a block are `usable size / node
size` (`C04_blockcells_intrusive`); for the small list they are the nodes of the chunks `insert` builds in it.

What this does *not* say (and what is false for the unordered list, finding D15): that an array request finds a
contiguous run whenever enough cells are free.
-/
namespace MemVerif.Props.C04Pool
open MemVerif.Model MemVerif.Props.C01Ord

/-- number of cells the blocks in use were cut into -/
def blockCellCount (l : AnyList) (used : List Blk) : Nat := (cellsOfBlocks l used).length

theorem blockCellCount_suffix (l : AnyList) {u u' : List Blk} (h : u <:+ u') : blockCellCount l u ≤ blockCellCount l u' := by
  obtain ⟨t, rfl⟩ := h
  simp [blockCellCount, cellsOfBlocks, List.flatMap_append]

/-- for the two intrusive lists a block contributes `usable size / node size` cells -/
theorem C04_blockcells_intrusive (l : AnyList) (used : List Blk) (h : ∀ P, l.obj ≠ .small P) :
    blockCellCount l used = (used.map fun b => b.usable.size / l.nodeSize).sum := by
  unfold blockCellCount
  rw [cellsOfBlocks_intrusive h, List.length_flatMap]
  simp only [blockNodes_length]

/-- the lists of two states under the invariant cut blocks into the same cells: kind and node size are the same -/
theorem blockCellCount_inv {ns : Nat} {o : AnyList.ListObj} {p p' : Pool} {live live' : List (Nat × Nat)}
    (h : PInvG ns o p live) (h' : PInvG ns o p' live') (used : List Blk) :
    blockCellCount p'.list used = blockCellCount p.list used :=
  congrArg List.length
    (cellsOfBlocks_same (.of_ns_obj (h'.nsEq.trans h.nsEq.symm) (h'.objEq.trans h.objEq.symm)) used)

/-- conservation, counted -/
theorem capacity_exact {ns : Nat} {o : AnyList.ListObj} {p : Pool} {live : List (Nat × Nat)} (h : PInvG ns o p live) :
    p.list.capacity + (liveCells ns live).length = blockCellCount p.list p.arena.used := by
  rw [h.sinv.capacity, blockCellCount, ← h.conserve.length_eq, List.length_append]

/-- **Exact accounting at every point of every history**: the capacity counter plus the cells of the live
allocations is the total number of cells of the blocks in use. `_partial`: `hfit` as for C01 (D21). -/
theorem C04_ipool_capacity_exact_partial (cfg : Cfg) (e : EnvS) (ns : Nat) (o : AnyList.ListObj) (g : GPool) (k : Nat)
    (ops : List POp) (hI : GInvG ns o g) (hfit : ∀ op ∈ ops, op.Fits ns)
    (henv : EnvOkG o (g.run cfg e k ops).1.p.arena.used) :
    let g' := (g.run cfg e k ops).1
    g'.p.list.capacity + (liveCells ns g'.live).length = blockCellCount g'.p.list g'.p.arena.used :=
  capacity_exact (GPool.run_invG cfg e ops g k hI hfit henv)

/-- **No capacity is lost.** After any history at whose end everything allocated has been released (the ledger is
empty), the pool's capacity is at least what it was at the start plus all cells that were live at the start: it is
exactly the number of cells of all blocks in use, and the blocks in use at the start are still in use. -/
theorem C04_ipool_no_capacity_lost_partial (cfg : Cfg) (e : EnvS) (ns : Nat) (o : AnyList.ListObj) (g : GPool) (k : Nat)
    (ops : List POp) (hI : GInvG ns o g) (hfit : ∀ op ∈ ops, op.Fits ns)
    (henv : EnvOkG o (g.run cfg e k ops).1.p.arena.used) (hall : (g.run cfg e k ops).1.live = []) :
    g.p.list.capacity + (liveCells ns g.live).length ≤ (g.run cfg e k ops).1.p.list.capacity ∧
    (g.run cfg e k ops).1.p.list.capacity =
      blockCellCount (g.run cfg e k ops).1.p.list (g.run cfg e k ops).1.p.arena.used := by
  have hE := GPool.run_invG cfg e ops g k hI hfit henv
  have h := capacity_exact hE
  rw [hall, liveCells_nil, List.length_nil, Nat.add_zero] at h
  have h0 := capacity_exact hI
  have hm := blockCellCount_suffix g.p.list (GPool.run_used_suffix cfg e ops g k)
  have hr := blockCellCount_inv hI hE (g.run cfg e k ops).1.p.arena.used
  exact ⟨by omega, h⟩

/-- **A cycle restores the capacity exactly when the pool did not grow**: if the history releases everything it
allocated and the block list at the end is the block list at the start, the capacity counter is back at its old
value — for any interleaving of node and array allocations and any release order. -/
theorem C04_ipool_cycle_exact_partial (cfg : Cfg) (e : EnvS) (ns : Nat) (o : AnyList.ListObj) (g : GPool) (k : Nat)
    (ops : List POp) (hI : GInvG ns o g) (hfit : ∀ op ∈ ops, op.Fits ns)
    (henv : EnvOkG o (g.run cfg e k ops).1.p.arena.used) (h0 : g.live = [])
    (hall : (g.run cfg e k ops).1.live = []) (hsame : (g.run cfg e k ops).1.p.arena.used = g.p.arena.used) :
    (g.run cfg e k ops).1.p.list.capacity = g.p.list.capacity := by
  have hs := capacity_exact hI
  rw [h0, liveCells_nil, List.length_nil, Nat.add_zero] at hs
  rw [(C04_ipool_no_capacity_lost_partial cfg e ns o g k ops hI hfit henv hall).2, hsame, hs]
  exact blockCellCount_inv hI (GPool.run_invG cfg e ops g k hI hfit henv) _

/-- capacity + live cells is unchanged by every operation that does not acquire a block: what an allocation takes off
the capacity counter is exactly the number of cells entered in the ledger for it (one for a node, `n` for
`allocate_array(n)`: `cellsOf_mul`), and a release gives back exactly the cells it removes from the ledger. -/
theorem C04_ipool_step_exact_partial (cfg : Cfg) (e : EnvS) (ns : Nat) (o : AnyList.ListObj) (g : GPool) (k : Nat) (op : POp)
    (hI : GInvG ns o g) (hfit : op.Fits ns) (henv : EnvOkG o (g.step cfg e k op).1.p.arena.used)
    (hsame : (g.step cfg e k op).1.p.arena.used = g.p.arena.used) :
    (g.step cfg e k op).1.p.list.capacity + (liveCells ns (g.step cfg e k op).1.live).length =
      g.p.list.capacity + (liveCells ns g.live).length := by
  have h := GPool.step_invG cfg e g k op hI hfit henv
  rw [capacity_exact h, capacity_exact hI, hsame, blockCellCount_inv hI h]

/-- an ordered pool (Debug configuration) run through a history with nodes, arrays, growth and out-of-order releases
ends with an empty ledger and all 32 cells of its two blocks (96 and 192 bytes, 16-byte header each, 8-byte nodes) free -/
example :
    let cfg : Cfg := { fence := 8, dblDealloc := true, assert := true }
    let e : EnvS := fun k => if k = 0 then some 5000 else if k = 1 then some 1000 else none
    let ops : List POp := [.allocNode, .allocArray 3, .allocArray 6, .dealloc 1, .allocNode, .allocArray 7, .dealloc 3,
      .dealloc 0, .dealloc 0, .dealloc 0]
    let c := Pool.create cfg (.growing 2 1 96) (.ord (OrdList.new 8 64 72)) true [e 0]
    let g := ((⟨c.st, []⟩ : GPool).run cfg e 1 ops).1
    g.live = [] ∧ g.p.list.capacity = 32 ∧ blockCellCount g.p.list g.p.arena.used = 32 ∧ EnvOkG (.ordered 64) g.p.arena.used := by
  decide +kernel

end MemVerif.Props.C04Pool
