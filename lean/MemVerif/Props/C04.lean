import MemVerif.Props.C04Lists
import MemVerif.Lemmas.OrdNode
import MemVerif.Model.Pool
/-!
# C04 — memory returned to a pool is reusable: no capacity is lost over any history

List level (all three implementations): `MemVerif.Props.C04Lists` (capacity counter = number of free nodes for every
operation; allocate/release restores the unordered list exactly, arrays up to permutation; chunk capacities of the
small list) and, below, the ordered list (release restores the node sequence exactly — uses the proved correctness of
`find_pos`). Pool level: a pool never asks its block source while the free list holds a node, and a cycle of node
allocations that is released again can be repeated without growth.
-/
namespace MemVerif.Props.C04
open MemVerif.Model MemVerif.Props.C04Lists

/-- ordered list: allocating a node and releasing it again gives back exactly the same node sequence and capacity -/
theorem C04_ordered_release_restores (cfg : Cfg) (l : OrdList) (hI : l.Inv) (l1 : OrdList) (x : Nat)
    (h : l.allocate = some (l1, x)) :
    ∃ l2, l1.deallocate cfg x = .ok l2 ∧ l2.nodes = l.nodes ∧ l2.cap = l.cap := by
  obtain ⟨xs, hn, hnodes, hI1, e1, e2, e3⟩ := OrdList.allocate_run l l1 hI x h
  have hasc := hI.asc
  rw [hn] at hasc
  have hmem : x ∈ l.nodes := hn ▸ List.mem_cons_self
  have hx : x ∉ l1.nodes := fun hx => Nat.lt_irrefl _ ((List.pairwise_cons.mp hasc).1 x (hnodes ▸ hx))
  obtain ⟨l2, hd, hn2, hc2, _⟩ := OrdList.deallocate_valid cfg l1 hI1 x hx
    (by rw [e1, e2, e3]; exact hI.apart x hmem) (hI.nodePos x hmem)
  exact ⟨l2, hd, by rw [hn2, hnodes, hn, insertAsc_front hasc], by rw [hc2, hI1.cap, hI.cap, hnodes, hn]; rfl⟩

/-- ordered list: a valid release (any order) inserts the node at its address position, counts it, keeps the invariant
(in particular `capacity_ = number of nodes` and a valid cursor) -/
theorem C04_ordered_release_valid (cfg : Cfg) (l : OrdList) (hI : l.Inv) (m : Nat) (hm : m ∉ l.nodes)
    (hmB : m + l.ns ≤ l.B ∨ l.E + 8 ≤ m) (hm0 : 0 < m) :
    ∃ l', l.deallocate cfg m = .ok l' ∧ l'.nodes = insertAsc m l.nodes ∧ l'.cap = l.cap + 1 ∧ l'.ld = m ∧ l'.Inv :=
  let ⟨l', h1, h2, h3, h4, h5, _⟩ := OrdList.deallocate_valid cfg l hI m hm hmB hm0
  ⟨l', h1, h2, h3, h4, h5⟩

/-- ordered list: `allocate()` takes the lowest node, the counter follows, the invariant is kept -/
theorem C04_ordered_allocate (l : OrdList) (hI : l.Inv) (x : Nat) (xs : List Nat) (hn : l.nodes = x :: xs) :
    ∃ l', l.allocate = some (l', x) ∧ l'.nodes = xs ∧ l'.cap + 1 = l.cap ∧ l'.Inv :=
  let ⟨l', h1, h2, h3, h4, _⟩ := OrdList.allocate_inv l hI x xs hn
  ⟨l', h1, h2, h3, h4⟩

/-- **No growth while a node is free**: `allocate_node` on a pool whose list is not empty makes no upstream call and
leaves the arena alone (every list type, every configuration). -/
theorem C04_no_growth_while_nonempty (cfg : Cfg) (p : Pool) (env : List (Option Nat)) (h : p.list.empty = false) :
    (p.allocateNode cfg env).ev = [] ∧ (p.allocateNode cfg env).st.arena = p.arena := by
  unfold Pool.allocateNode
  simp only [h, Bool.false_eq_true, ↓reduceIte]
  split <;> exact ⟨rfl, rfl⟩

/-- the same for a collection bucket -/
theorem C04_coll_no_growth_while_nonempty (cfg : Cfg) (c : Coll) (size : Nat) (env : List (Option Nat)) (l : AnyList)
    (dc : Nat) (hs : ¬ size > c.maxNodeSize) (hl : c.lists[c.listIndex size]? = some l) (hd : c.defCapacity = some dc)
    (h : l.empty = false) :
    (c.allocateNode cfg size env).ev = [] ∧ (c.allocateNode cfg size env).st.arena = c.arena ∧
      (c.allocateNode cfg size env).st.cur = c.cur := by
  unfold Coll.allocateNode
  simp only [hs, ↓reduceIte, hl, hd, h, Bool.false_eq_true, Coll.takeNode]
  split <;> exact ⟨rfl, rfl, rfl⟩

/-- `m` successive `allocate_node` calls -/
def allocNodes (cfg : Cfg) : Nat → Pool → Pool × List UpEv
  | 0, p => (p, [])
  | m + 1, p =>
    let r := p.allocateNode cfg []
    let (p', ev) := allocNodes cfg m r.st
    (p', r.ev ++ ev)

/-- **A cycle never grows the pool** (unordered list): with at least `m` free nodes, `m` node allocations make no
upstream call (the environment is not even consulted: it is `[]`), and take exactly `m` nodes. Since every release
gives one node back (`C04_free_deallocate`), a cycle that has run once can be repeated any number of times. -/
theorem C04_cycle_no_growth (cfg : Cfg) (m : Nat) (p : Pool) (l : FreeList) (hl : p.list = .free l) (hI : FreeInv l)
    (hm : m ≤ l.cap) :
    (allocNodes cfg m p).2 = [] ∧ (allocNodes cfg m p).1.arena = p.arena ∧
      ∃ l', (allocNodes cfg m p).1.list = .free l' ∧ FreeInv l' ∧ l'.cap + m = l.cap := by
  induction m generalizing p l with
  | zero => exact ⟨rfl, rfl, l, hl, hI, by simp⟩
  | succ m ih =>
    have hpos : 0 < l.nodes.length := hI ▸ Nat.lt_of_lt_of_le (Nat.succ_pos m) hm
    obtain ⟨x, xs, hn⟩ := List.exists_cons_of_length_pos hpos
    have hne : p.list.empty = false := by rw [hl]; simp [AnyList.empty, FreeList.empty, hn]
    have hstep : p.allocateNode cfg [] = ⟨{ p with list := .free { l with nodes := xs, cap := l.cap - 1 } }, .ok x, []⟩ := by
      unfold Pool.allocateNode
      simp only [hne, Bool.false_eq_true, ↓reduceIte]
      rw [hl]
      simp only [AnyList.allocate, FreeList.allocate, hn, Option.map]
    have hI' : FreeInv { l with nodes := xs, cap := l.cap - 1 } := by
      unfold FreeInv at hI ⊢
      rw [hI, hn]; simp
    have := ih { p with list := .free { l with nodes := xs, cap := l.cap - 1 } } { l with nodes := xs, cap := l.cap - 1 } rfl hI'
      (Nat.le_sub_one_of_lt hm)
    obtain ⟨h1, h2, l', h3, h4, h5⟩ := this
    simp only [allocNodes, hstep]
    refine ⟨h1, h2, l', h3, h4, ?_⟩
    rw [← Nat.add_assoc, h5]
    exact Nat.sub_add_cancel (Nat.le_trans (Nat.le_add_left 1 m) hm)

end MemVerif.Props.C04
