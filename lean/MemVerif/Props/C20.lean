import MemVerif.Model.ExcSafe
import MemVerif.Lemmas.Util
/-!
# C20 — object-creating helpers are exception safe at every constructor failure point

For every array length `n` and every failing index `k < n` (no bound; the property's `n ≤ 16` is a special case), every
element size/alignment, every member layout of a joint object: each element that was constructed is destroyed exactly
once, nothing else is destroyed, the memory is released once with the parameters it was obtained with, and the exception
reaches the caller. On success every element is constructed once and destroyed once by the deleter / `reset`.
-/
namespace MemVerif.Props.C20
open MemVerif.Model

/-! ### the source loops in closed form -/

theorem dtorLoop_eq : ∀ (n cur : Nat), dtorLoop cur n = (List.range' cur n).map Ev.dtor := by
  intro n
  induction n with
  | zero => intro cur; rfl
  | succ n ih => intro cur; simp [dtorLoop, ih, List.range'_succ]

theorem ctorLoop_none : ∀ (n cur : Nat) (fail : Option Nat), (∀ k, fail = some k → k < cur ∨ cur + n ≤ k) →
    ctorLoop fail cur n = ((List.range' cur n).map Ev.ctor, none) := by
  intro n
  induction n with
  | zero => intro cur fail _; rfl
  | succ n ih =>
    intro cur fail h
    have hne : fail ≠ some cur := fun hf =>
      (h cur hf).elim (Nat.lt_irrefl cur) (Nat.not_le.2 (Nat.lt_add_of_pos_right (Nat.succ_pos n)))
    have := ih (cur + 1) fail fun k hk => (h k hk).imp Nat.lt_succ_of_lt fun hle => Nat.add_right_comm cur 1 n ▸ hle
    simp [ctorLoop, hne, this, List.range'_succ]

/-- The failing element is named by its distance `d` from the current one, so that no subtraction appears. -/
theorem ctorLoop_some : ∀ (n cur d : Nat), d < n →
    ctorLoop (some (cur + d)) cur n = ((List.range' cur d).map Ev.ctor ++ [Ev.ctorThrow (cur + d)], some (cur + d)) := by
  intro n
  induction n with
  | zero => intro cur d h; exact absurd h (Nat.not_lt_zero d)
  | succ n ih =>
    intro cur d h
    rw [ctorLoop]
    cases d with
    | zero =>
      rw [Nat.add_zero, if_pos rfl]
      rfl
    | succ d =>
      have hne : some (cur + (d + 1)) ≠ some cur := fun h =>
        Nat.ne_of_gt (Nat.lt_add_of_pos_right (Nat.succ_pos d)) (Option.some.inj h)
      -- the failing element is `d` behind `cur + 1`
      rw [if_neg hne, List.range'_succ, Nat.add_comm d 1, ← Nat.add_assoc, ih (cur + 1) d (Nat.lt_of_succ_lt_succ h)]
      rfl

theorem construct_fail (start n d : Nat) (h : d < n) :
    construct start n (some (start + d)) =
      ((List.range' start d).map Ev.ctor ++ [Ev.ctorThrow (start + d)] ++ (List.range' start d).map Ev.dtor, true) := by
  simp [construct, ctorLoop_some n start d h, dtorLoop_eq]

theorem construct_ok (start n : Nat) (fail : Option Nat) (h : ∀ k, fail = some k → k < start ∨ start + n ≤ k) :
    construct start n fail = ((List.range' start n).map Ev.ctor, false) := by
  simp [construct, ctorLoop_none n start fail h]

@[simp] theorem ctorIds_append (a b : List Ev) : ctorIds (a ++ b) = ctorIds a ++ ctorIds b := by simp [ctorIds]
@[simp] theorem dtorIds_append (a b : List Ev) : dtorIds (a ++ b) = dtorIds a ++ dtorIds b := by simp [dtorIds]
@[simp] theorem allocs_append (a b : List Ev) : allocs (a ++ b) = allocs a ++ allocs b := by simp [allocs]
@[simp] theorem deallocs_append (a b : List Ev) : deallocs (a ++ b) = deallocs a ++ deallocs b := by simp [deallocs]
@[simp] theorem ctorIds_cons (e : Ev) (l : List Ev) : ctorIds (e :: l) = (e.ctorId.toList) ++ ctorIds l := by
  cases h : e.ctorId <;> simp [ctorIds, h]
@[simp] theorem dtorIds_cons (e : Ev) (l : List Ev) : dtorIds (e :: l) = (e.dtorId.toList) ++ dtorIds l := by
  cases h : e.dtorId <;> simp [dtorIds, h]
@[simp] theorem allocs_cons (e : Ev) (l : List Ev) : allocs (e :: l) = (e.allocOf.toList) ++ allocs l := by
  cases h : e.allocOf <;> simp [allocs, h]
@[simp] theorem deallocs_cons (e : Ev) (l : List Ev) : deallocs (e :: l) = (e.deallocOf.toList) ++ deallocs l := by
  cases h : e.deallocOf <;> simp [deallocs, h]
@[simp] theorem ctorIds_nil : ctorIds [] = [] := rfl
@[simp] theorem dtorIds_nil : dtorIds [] = [] := rfl
@[simp] theorem allocs_nil : allocs [] = [] := rfl
@[simp] theorem deallocs_nil : deallocs [] = [] := rfl

@[simp] theorem ctorIds_map_ctor (l : List Nat) : ctorIds (l.map Ev.ctor) = l := List.filterMap_map_some Ev.ctor (fun _ => rfl) l
@[simp] theorem dtorIds_map_dtor (l : List Nat) : dtorIds (l.map Ev.dtor) = l := List.filterMap_map_some Ev.dtor (fun _ => rfl) l
@[simp] theorem dtorIds_map_ctor (l : List Nat) : dtorIds (l.map Ev.ctor) = [] := List.filterMap_map_none Ev.ctor (fun _ => rfl) l
@[simp] theorem ctorIds_map_dtor (l : List Nat) : ctorIds (l.map Ev.dtor) = [] := List.filterMap_map_none Ev.dtor (fun _ => rfl) l
@[simp] theorem allocs_map_ctor (l : List Nat) : allocs (l.map Ev.ctor) = [] := List.filterMap_map_none Ev.ctor (fun _ => rfl) l
@[simp] theorem allocs_map_dtor (l : List Nat) : allocs (l.map Ev.dtor) = [] := List.filterMap_map_none Ev.dtor (fun _ => rfl) l
@[simp] theorem deallocs_map_ctor (l : List Nat) : deallocs (l.map Ev.ctor) = [] := List.filterMap_map_none Ev.ctor (fun _ => rfl) l
@[simp] theorem deallocs_map_dtor (l : List Nat) : deallocs (l.map Ev.dtor) = [] := List.filterMap_map_none Ev.dtor (fun _ => rfl) l

/-- The property, as a predicate on an event list: the elements constructed are exactly the elements destroyed
(same multiset), no element is constructed twice, there is exactly one allocation and it is released exactly once with
the same kind, count, size and alignment. -/
structure ExactlyOnce (evs : List Ev) : Prop where
  destroyed : (ctorIds evs).Perm (dtorIds evs)
  distinct : (ctorIds evs).Nodup
  released : allocs evs = deallocs evs
  single : (allocs evs).length = 1

/-! ### the two shapes a log takes

Every helper allocates, constructs elements `cs`, and then either a constructor throws, the elements `ds` are destroyed,
the memory is released and the exception leaves, or the object is handed out and the deleter later destroys `ds` and
releases. The six statements about the helpers below are these two at the closed forms of the helpers. -/

theorem rollback_spec {evs : List Ev} {a : Bool} {c s al k : Nat} {cs ds : List Nat}
    (h : evs = Ev.alloc a c s al ::
      (cs.map Ev.ctor ++ [Ev.ctorThrow k] ++ ds.map Ev.dtor ++ [Ev.dealloc a c s al, Ev.propagate]))
    (hp : cs.Perm ds) (hn : cs.Nodup) :
    ExactlyOnce evs ∧ ctorIds evs = cs ∧ dtorIds evs = ds ∧ deallocs evs = [(a, c, s, al)] ∧
      ∃ pre, evs = pre ++ [Ev.propagate] := by
  have hc : ctorIds evs = cs := by rw [h]; simp [Ev.ctorId]
  have hd : dtorIds evs = ds := by rw [h]; simp [Ev.dtorId]
  have ha : allocs evs = [(a, c, s, al)] := by rw [h]; simp [Ev.allocOf]
  have hf : deallocs evs = [(a, c, s, al)] := by rw [h]; simp [Ev.deallocOf]
  refine ⟨⟨hc ▸ hd ▸ hp, hc ▸ hn, ha.trans hf.symm, ha ▸ rfl⟩, hc, hd, hf, ?_⟩
  exact ⟨Ev.alloc a c s al :: (cs.map Ev.ctor ++ [Ev.ctorThrow k] ++ ds.map Ev.dtor ++ [Ev.dealloc a c s al]), by rw [h]; simp⟩

theorem success_spec {mk del : List Ev} {a : Bool} {c s al : Nat} {cs ds : List Nat}
    (hmk : mk = Ev.alloc a c s al :: cs.map Ev.ctor) (hdel : del = ds.map Ev.dtor ++ [Ev.dealloc a c s al])
    (hp : cs.Perm ds) (hn : cs.Nodup) :
    ExactlyOnce (mk ++ del) ∧ ctorIds mk = cs ∧ dtorIds mk = [] ∧ deallocs mk = [] := by
  subst hmk hdel
  refine ⟨⟨?_, ?_, ?_, ?_⟩, ?_, ?_, ?_⟩
  · simpa [Ev.ctorId, Ev.dtorId] using hp
  · simpa [Ev.ctorId] using hn
  · simp [Ev.allocOf, Ev.deallocOf]
  · simp [Ev.allocOf]
  · simp [Ev.ctorId]
  · simp [Ev.dtorId]
  · simp [Ev.deallocOf]

/-- constructor failure: nothing was constructed, nothing is destroyed, the node is released with `sizeof/alignof`, the
exception propagates -/
theorem C20_unique_rollback (size align : Nat) :
    ExactlyOnce (allocateUnique size align true) ∧ (∃ pre, allocateUnique size align true = pre ++ [Ev.propagate]) ∧
      dtorIds (allocateUnique size align true) = [] := by
  obtain ⟨h1, _, h3, _, h5⟩ := rollback_spec (evs := allocateUnique size align true) (cs := []) (ds := []) rfl (.refl _) .nil
  exact ⟨h1, h5, h3⟩

theorem C20_unique_success (size align : Nat) :
    ExactlyOnce (allocateUnique size align false ++ deleteUnique size align) ∧
      ctorIds (allocateUnique size align false) = [0] ∧ dtorIds (allocateUnique size align false) = [] := by
  obtain ⟨h1, h2, h3, _⟩ := success_spec (mk := allocateUnique size align false) (del := deleteUnique size align)
    (cs := [0]) (ds := [0]) rfl rfl (.refl _) (List.pairwise_singleton _ 0)
  exact ⟨h1, h2, h3⟩

theorem allocateUniqueArray_fail (n size align k : Nat) (hk : k < n) :
    allocateUniqueArray n size align (some k) =
      Ev.alloc true n size align :: ((List.range' 0 k).map Ev.ctor ++ [Ev.ctorThrow k] ++ (List.range' 0 k).map Ev.dtor ++
        [Ev.dealloc true n size align, Ev.propagate]) := by
  have h := construct_fail 0 n k hk
  rw [Nat.zero_add] at h
  simp [allocateUniqueArray, h]

/-- **Rollback is exact** (every `n`, every `k < n`): exactly the elements `0..k-1` are constructed and exactly those are
destroyed, each once, front to back; the array is released once as an array of `n` with the element size and alignment
it was allocated with; the exception propagates; no element `≥ k` is touched. -/
theorem C20_unique_array_rollback (n size align k : Nat) (hk : k < n) :
    let evs := allocateUniqueArray n size align (some k)
    ExactlyOnce evs ∧ ctorIds evs = List.range' 0 k ∧ dtorIds evs = List.range' 0 k ∧
      deallocs evs = [(true, n, size, align)] ∧ ∃ pre, evs = pre ++ [Ev.propagate] :=
  rollback_spec (allocateUniqueArray_fail n size align k hk) (.refl _) List.nodup_range'

/-- **Success**: each of the `n` elements is constructed once; the deleter destroys each once and releases the array
with matching parameters -/
theorem C20_unique_array_success (n size align : Nat) :
    let mk := allocateUniqueArray n size align none
    ExactlyOnce (mk ++ deleteUniqueArray n size align) ∧ ctorIds mk = List.range' 0 n ∧ dtorIds mk = [] ∧ deallocs mk = [] := by
  have hmk : allocateUniqueArray n size align none = Ev.alloc true n size align :: (List.range' 0 n).map Ev.ctor := by
    simp [allocateUniqueArray, construct_ok 0 n none nofun]
  have hdel : deleteUniqueArray n size align = (List.range' 0 n).map Ev.dtor ++ [Ev.dealloc true n size align] := by
    simp [deleteUniqueArray, dtorLoop_eq]
  exact success_spec hmk hdel (.refl _) List.nodup_range'

/-- ids of the elements of the members constructed so far -/
def idsOf (done : List (Nat × Nat)) : List Nat := done.flatMap fun p => List.range' p.1 p.2

theorem idsOf_nil : idsOf [] = [] := rfl

theorem idsOf_cons (s n : Nat) (done : List (Nat × Nat)) : idsOf ((s, n) :: done) = List.range' s n ++ idsOf done :=
  List.flatMap_cons

theorem destroyMembers_eq (done : List (Nat × Nat)) : destroyMembers done = (idsOf done).map Ev.dtor := by
  induction done with
  | nil => rfl
  | cons p rest ih => rw [destroyMembers, jointArrayDtor, dtorLoop_eq, ih, idsOf_cons, List.map_append]

theorem constructMembers_cons_fail {fail : Option Nat} {n : Nat} {ms : List Nat} {start : Nat} {done : List (Nat × Nat)}
    {e : List Ev} (h : construct start n fail = (e, true)) :
    constructMembers fail (n :: ms) start done = (e ++ destroyMembers done, true, done) := by
  simp [constructMembers, jointArrayCtor, h]

theorem constructMembers_cons_ok {fail : Option Nat} {n : Nat} {ms : List Nat} {start : Nat} {done : List (Nat × Nat)}
    {e : List Ev} (h : construct start n fail = (e, false)) :
    constructMembers fail (n :: ms) start done =
      (e ++ (constructMembers fail ms (start + n) ((start, n) :: done)).1,
       (constructMembers fail ms (start + n) ((start, n) :: done)).2.1,
       (constructMembers fail ms (start + n) ((start, n) :: done)).2.2) := by
  simp [constructMembers, jointArrayCtor, h]

/-- Element `start + d` of some member throws: the `d` elements from `start` on have been constructed in the order of their
ids, and they are destroyed together with those of the members in `done` (`ds`: the failing array front to back, then the
earlier members last constructed first). -/
theorem constructMembers_fail : ∀ (ms : List Nat) (start d : Nat) (done : List (Nat × Nat)), d < ms.sum →
    ∃ (ds : List Nat) (done' : List (Nat × Nat)), ds.Perm (List.range' start d ++ idsOf done) ∧
      constructMembers (some (start + d)) ms start done =
        ((List.range' start d).map Ev.ctor ++ [Ev.ctorThrow (start + d)] ++ ds.map Ev.dtor, true, done') := by
  intro ms
  induction ms with
  | nil => intro start d done h; exact absurd h (Nat.not_lt_zero d)
  | cons n ms ih =>
    intro start d done h
    by_cases hlt : d < n
    · refine ⟨_, done, .refl _, ?_⟩
      rw [constructMembers_cons_fail (construct_fail start n d hlt), destroyMembers_eq, List.map_append,
        List.append_assoc, List.append_assoc]
    · -- the failing element lies `d'` behind this member, whose elements come first among those constructed
      obtain ⟨d', rfl⟩ := Nat.exists_eq_add_of_le (Nat.le_of_not_lt hlt)
      rw [List.sum_cons] at h
      obtain ⟨ds, done', hp, he⟩ := ih (start + n) d' ((start, n) :: done) (Nat.lt_of_add_lt_add_left h)
      rw [← Nat.add_assoc, ← List.range'_append_1]
      refine ⟨ds, done', ?_, ?_⟩
      · rw [idsOf_cons] at hp
        rw [List.append_assoc]
        exact hp.trans (List.perm_append_comm_assoc ..)
      · rw [constructMembers_cons_ok (construct_ok start n _ fun _ hk => .inr (Option.some.inj hk ▸ Nat.le_add_right ..)),
          he, List.map_append, List.append_assoc, List.append_assoc, List.append_assoc]

/-- No constructor throws: every element of every member is constructed, in the order of the ids, and the members are
recorded for `~T()`. -/
theorem constructMembers_none : ∀ (ms : List Nat) (start : Nat) (done : List (Nat × Nat)),
    ∃ done', (idsOf done').Perm (List.range' start ms.sum ++ idsOf done) ∧
      constructMembers none ms start done = ((List.range' start ms.sum).map Ev.ctor, false, done') := by
  intro ms
  induction ms with
  | nil => intro start done; exact ⟨done, .refl _, rfl⟩
  | cons n ms ih =>
    intro start done
    obtain ⟨done', hp, he⟩ := ih (start + n) ((start, n) :: done)
    refine ⟨done', ?_, ?_⟩
    · rw [idsOf_cons] at hp
      rw [List.sum_cons, ← List.range'_append_1, List.append_assoc]
      exact hp.trans (List.perm_append_comm_assoc ..)
    · rw [constructMembers_cons_ok (construct_ok start n none nofun), he, List.sum_cons,
        ← List.range'_append_1, List.map_append]

/-- **`joint_ptr` creation is exception safe** for every member layout (any number of `joint_array`s of any lengths) and
every failing element: all elements constructed so far — of the failing array and of every earlier member — are destroyed
exactly once, the block is released once with `sizeof(T) + additional_size` and `alignof(T)`, the exception propagates. -/
theorem C20_joint_create_rollback (objSize extra align : Nat) (members : List Nat) (k : Nat) (hk : k < members.sum) :
    let evs := jointCreate objSize extra align members 0 (some k)
    ExactlyOnce evs ∧ deallocs evs = [(false, 1, objSize + extra, align)] ∧ ∃ pre, evs = pre ++ [Ev.propagate] := by
  intro evs
  obtain ⟨ds, done', hp, he⟩ := constructMembers_fail members 0 k [] hk
  rw [idsOf_nil, List.append_nil] at hp
  rw [Nat.zero_add] at he
  have h : evs = Ev.alloc false 1 (objSize + extra) align :: ((List.range' 0 k).map Ev.ctor ++ [Ev.ctorThrow k] ++
      ds.map Ev.dtor ++ [Ev.dealloc false 1 (objSize + extra) align, Ev.propagate]) := by
    simp [evs, jointCreate, he]
  obtain ⟨h1, _, _, h4, h5⟩ := rollback_spec h hp.symm List.nodup_range'
  exact ⟨h1, h4, h5⟩

/-- **Success and `reset`**: every element of every member is constructed once; `reset()` destroys each once and
releases the block in one call with exactly the size and alignment it was allocated with -/
theorem C20_joint_create_reset (objSize extra align : Nat) (members : List Nat) :
    let mk := jointCreate objSize extra align members 0 none
    ExactlyOnce (mk ++ jointReset objSize extra align members 0) ∧ dtorIds mk = [] ∧ deallocs mk = [] := by
  intro mk
  obtain ⟨done', hp, he⟩ := constructMembers_none members 0 []
  rw [idsOf_nil, List.append_nil] at hp
  have hmk : mk = Ev.alloc false 1 (objSize + extra) align :: (List.range' 0 members.sum).map Ev.ctor := by
    simp [mk, jointCreate, he]
  have hdel : jointReset objSize extra align members 0 =
      (idsOf done').map Ev.dtor ++ [Ev.dealloc false 1 (objSize + extra) align] := by
    rw [jointReset, he, destroyMembers_eq]
  obtain ⟨h1, _, h3, h4⟩ := success_spec hmk hdel hp.symm List.nodup_range'
  exact ⟨h1, h3, h4⟩

/-! ### instances (non-vacuity) and the executable well-formedness check the harness also runs -/

example : evsStr (allocateUniqueArray 4 24 8 (some 2)) = "A:arr:4:24:8 C0 C1 X2 D0 D1 F:arr:4:24:8 T" := by decide +kernel
example : evsStr (jointCreate 40 64 8 [2, 3] 0 (some 3)) = "A:node:104:8 C0 C1 C2 X3 D2 D0 D1 F:node:104:8 T" := by decide +kernel
example : wellFormed (jointCreate 40 64 8 [2, 3] 0 (some 3)) = true := by decide +kernel
example : wellFormed (jointCreate 40 64 8 [2, 0, 3] 0 none ++ jointReset 40 64 8 [2, 0, 3] 0) = true := by decide +kernel
example : wellFormed (allocateUniqueArray 16 8 8 (some 15)) = true := by decide +kernel
example : wellFormed (allocateUniqueArray 0 8 8 none ++ deleteUniqueArray 0 8 8) = true := by decide +kernel
/-- the checker rejects a log in which the failing element itself is destroyed (what a wrong rollback bound would do) -/
example : wellFormed [.alloc true 2 8 8, .ctor 0, .ctorThrow 1, .dtor 0, .dtor 1, .dealloc true 2 8 8, .propagate] = false := by decide +kernel

end MemVerif.Props.C20
