import MemVerif.Lemmas.PoolFrame
/-!
# C15 — leak reporting is exact: net bytes on destruction, silence when balanced

The leak counter of the stateful arena allocators (`object_leak_checker`): `on_allocate`/`on_deallocate` are called by
`allocator_traits` with `size` (nodes) or `count * size` (arrays) — never with the pool's node size — after the
underlying operation succeeded; destruction reports the net amount iff it is non-zero; a move carries the count along.
-/
namespace MemVerif.Props.C15
open MemVerif.Model

/-- traits-level operations of a pool, with the address to release chosen by the caller -/
inductive TOp
  | allocNode (size align : Nat)
  | allocArray (count size align : Nat)
  | deallocNode (addr size : Nat)
  | deallocArray (addr count size : Nat)

/-- one traits operation on the pool model; the environment supplies upstream answers -/
def tstep (cfg : Cfg) (p : Pool) (env : List (Option Nat)) : TOp → PRes Pool
  | .allocNode s a => p.traitsAllocateNode cfg s a env
  | .allocArray c s a => p.traitsAllocateArray cfg c s a env
  | .deallocNode a s => p.traitsDeallocateNode cfg a s
  | .deallocArray a c s => p.traitsDeallocateArray cfg a c s

/-- the amount an operation contributes to the net count, given its observed outcome -/
def delta (op : TOp) (out : Out) : Int :=
  match op, out with
  | .allocNode s _, .ok _ => s
  | .allocArray c s _, .ok _ => mul64 c s
  | .deallocNode _ s, .done => -(s : Int)
  | .deallocArray _ c s, .done => -(mul64 c s : Int)
  | _, _ => 0

/-! The pool's own operations never touch the counter (it is not the list, and `allocate_block()` leaves it alone:
`Pool.Served.frame`); only the traits wrappers `onAlloc`/`onDealloc` do. -/

theorem allocateBlock_leak (cfg : Cfg) (p : Pool) (env : List (Option Nat)) :
    (p.allocateBlock cfg env).st.leak = p.leak := by
  generalize hr : p.allocateBlock cfg env = r
  cases hr ▸ Pool.allocateBlock_grown cfg p env <;> rfl

theorem allocateNode_leak (cfg : Cfg) (p : Pool) (env : List (Option Nat)) :
    (p.allocateNode cfg env).st.leak = p.leak :=
  ((Pool.allocateNode_served cfg p env).frame Pool.leak fun _ _ => rfl).elim id (·.trans (allocateBlock_leak cfg p env))

theorem allocateArrayBytes_leak (cfg : Cfg) (p : Pool) (b : Nat) (env : List (Option Nat)) :
    (p.allocateArrayBytes cfg b env).st.leak = p.leak :=
  ((Pool.allocateArrayBytes_served cfg p b env).frame Pool.leak fun _ _ => rfl).elim id (·.trans (allocateBlock_leak cfg p env))

theorem onAlloc_leak (cfg : Cfg) (p : Pool) (n : Nat) :
    (p.onAlloc cfg n).leak = p.leak + (if cfg.leak then (n : Int) else 0) := by
  unfold Pool.onAlloc; split <;> simp

theorem onDealloc_leak (cfg : Cfg) (p : Pool) (n : Nat) :
    (p.onDealloc cfg n).leak = p.leak + (if cfg.leak then -(n : Int) else 0) := by
  unfold Pool.onDealloc; split <;> simp [Int.sub_eq_add_neg]

/-- what `C15_step_exact` says of one result of `op` on `p` -/
def Exact (cfg : Cfg) (p : Pool) (op : TOp) (r : PRes Pool) : Prop :=
  r.st.leak = p.leak + (if cfg.leak then delta op r.out else 0)

/-- only an address or a completed release counts -/
theorem delta_other (op : TOp) {out : Out} (hok : ∀ a, out ≠ .ok a) (hdone : out ≠ .done) : delta op out = 0 := by
  unfold delta
  split
  · exact absurd rfl (hok _)
  · exact absurd rfl (hok _)
  · exact absurd rfl hdone
  · exact absurd rfl hdone
  · rfl

/-- a check that refuses the request before the pool is touched -/
theorem Exact.guard {cfg : Cfg} {p : Pool} {op : TOp} {c : Prop} [Decidable c] {e : Exn} {r : PRes Pool}
    (h : Exact cfg p op r) : Exact cfg p op (if c then ⟨p, .throws e, []⟩ else r) := by
  split
  · simp [Exact, delta_other op (out := .throws e)]
  · exact h

/-- the allocating wrappers: `on_allocate(n)` iff the pool's own operation `r` returned an address -/
theorem Exact.alloc {cfg : Cfg} {p : Pool} {op : TOp} {n : Nat} {r : PRes Pool} (hr : r.st.leak = p.leak)
    (hok : ∀ a, delta op (.ok a) = n) (hdone : delta op .done = 0) :
    Exact cfg p op (match r.out with | .ok _ => { r with st := r.st.onAlloc cfg n } | _ => r) := by
  unfold Exact
  split
  · next a h => simp only [h, hok, onAlloc_leak, hr]
  · next h =>
    have : delta op r.out = 0 := by
      by_cases hd : r.out = .done
      · rw [hd, hdone]
      · exact delta_other op h hd
    simp [hr, this]

/-- the releasing wrappers: `on_deallocate(n)` iff the pool's own operation `r` completed -/
theorem Exact.dealloc {cfg : Cfg} {p : Pool} {op : TOp} {n : Nat} {r : PRes Pool} (hr : r.st.leak = p.leak)
    (hdone : delta op .done = -(n : Int)) (hok : ∀ a, delta op (.ok a) = 0) :
    Exact cfg p op (match r.out with | .done => { r with st := r.st.onDealloc cfg n } | _ => r) := by
  unfold Exact
  split
  · next h => simp only [h, hdone, onDealloc_leak, hr]
  · next h =>
    have : delta op r.out = 0 := by
      by_cases ha : ∃ a, r.out = .ok a
      · obtain ⟨a, ha⟩ := ha
        rw [ha, hok]
      · exact delta_other op (fun a e => ha ⟨a, e⟩) h
    simp [hr, this]

/-- **One step is exact**: the counter moves by the traits-level size iff the operation succeeded, and not at all
with leak checking disabled. -/
theorem C15_step_exact (cfg : Cfg) (p : Pool) (env : List (Option Nat)) (op : TOp) :
    (tstep cfg p env op).st.leak = p.leak + (if cfg.leak then delta op (tstep cfg p env op).out else 0) := by
  show Exact cfg p op (tstep cfg p env op)
  -- the allocating wrappers: the size and alignment checks, then `on_allocate` around the pool's own operation
  cases op with
  | allocNode s a => exact .guard (.guard (.alloc (allocateNode_leak cfg p env) (fun _ => rfl) rfl))
  | allocArray c s a => exact .guard (.guard (.guard (.alloc (allocateArrayBytes_leak cfg p _ env) (fun _ => rfl) rfl)))
  | deallocNode a s => exact .dealloc (liftList_frame Pool.leak (fun _ _ => rfl) p _) rfl fun _ => rfl
  | deallocArray a c s => exact .dealloc (liftList_frame Pool.leak (fun _ _ => rfl) p _) rfl fun _ => rfl

/-- run a history; `envs` gives the upstream answers available to each step -/
def trun (cfg : Cfg) (p : Pool) : List (TOp × List (Option Nat)) → Pool × List (TOp × Out)
  | [] => (p, [])
  | (op, env) :: rest =>
    let r := tstep cfg p env op
    let (p', log) := trun cfg r.st rest
    (p', (op, r.out) :: log)

/-- **Net exact**: after any history the counter equals the initial value plus the sum of the traits-level sizes of
the successful allocations minus those of the releases. -/
theorem C15_net_exact (cfg : Cfg) (hl : cfg.leak = true) (p : Pool) (h : List (TOp × List (Option Nat))) :
    (trun cfg p h).1.leak = p.leak + ((trun cfg p h).2.map fun x => delta x.1 x.2).sum := by
  induction h generalizing p with
  | nil => simp [trun]
  | cons x rest ih =>
    simp only [trun, List.map_cons, List.sum_cons]
    rw [ih, C15_step_exact, hl]
    simp only [↓reduceIte]
    omega

/-- **Reported once, iff non-zero, with the exact net amount**; never with leak checking disabled. -/
theorem C15_report_iff_nonzero (cfg : Cfg) (p : Pool) :
    (p.destroy cfg).2.1 = (if cfg.leak && p.leak ≠ 0 then some p.leak else none) := by
  simp [Pool.destroy]

/-- **Silence when balanced**: a history whose traits-level amounts cancel leaves nothing to report, whatever the
mismatch between element sizes and the pool's node size. -/
theorem C15_balanced_silent (cfg : Cfg) (hl : cfg.leak = true) (p : Pool) (hp : p.leak = 0) (h : List (TOp × List (Option Nat)))
    (hbal : ((trun cfg p h).2.map fun x => delta x.1 x.2).sum = 0) :
    ((trun cfg p h).1.destroy cfg).2.1 = none := by
  rw [C15_report_iff_nonzero, C15_net_exact cfg hl, hp, hbal]
  simp

/-- memory_stack: the same accounting (`on_allocate(size)` after a successful allocation) and a move carries the count -/
theorem C15_stack_move_transfers (s : MemStack) : (s.moveOut).1.leak = s.leak ∧ (s.moveOut).2.leak = 0 := ⟨rfl, rfl⟩

theorem C15_stack_report (cfg : Cfg) (s : MemStack) :
    (s.destroy cfg).2.2 = (if cfg.leak && s.leak ≠ 0 then some s.leak else none) := by
  simp [MemStack.destroy]

end MemVerif.Props.C15
