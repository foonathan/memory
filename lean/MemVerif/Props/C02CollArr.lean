import MemVerif.Props.C02Coll
/-!
C02 for `memory_pool_collection` over the intrusive free lists, **node and array operations and `reserve`**, all
histories: the alignment of every cell held or free (`C02_coll_array_aligned_partial`); an array at the moment it is
handed out, whose whole cells cover `count * size` bytes, so that element `i` is at `base + i*size` inside them
(`C02_coll_array_handout`); and **the alignment the traits accept for a request of `size` bytes, `alignment_for(size)`,
divides the grid alignment of the bucket that serves it** for identity and log2 buckets
(`C02_coll_requested_alignment_identity/_log2`): a pointer returned for `(size, alignment)` with
`alignment ≤ alignment_for(size)` is aligned to every power of two up to `alignment_for(size)`.

`…_partial`: `small_node_pool` buckets stay at the correspondence level.
-/
namespace MemVerif.Props.C02CollArr
open MemVerif.Model MemVerif.Gen

/-- **C02 (alignment), collections, node and array operations and `reserve`.** -/
theorem C02_coll_array_aligned_partial (cfg : Cfg) (e : EnvS) (arr arrLen : Nat) (hf : cfg.fence ≤ 2 ^ 32) (g : GCollA) (k : Nat)
    (ops : List COpA) (hfit : ∀ op ∈ ops, op.Fits) (hI : CInv arr arrLen g.c g.live) (hg : g.c.Grid g.live)
    (henv : BlocksOk (g.run cfg e k ops).1.c.arena.used) :
    let g' := (g.run cfg e k ops).1
    (∀ as ∈ g'.live, alignOfNs (g'.c.nsOf as.2) ∣ as.1) ∧
    (∀ l ∈ g'.c.lists, ∀ x ∈ l.cells, alignOfNs l.nodeSize ∣ x) := by
  intro g'
  have h := (GCollA.run_kept cfg e hf ops g k hfit hI henv).grid hg
  exact ⟨h.2, fun l hl => (h.1 l hl).cells⟩

/-- **An array at the moment it is handed out**: from any state that satisfies the invariants, `allocate_array(count,
size)` answering `a` means: `a` is aligned for the bucket, no bucket changed its node size, the ledger holds the
`arrCells` consecutive whole cells `a, a + ns, …`, and they cover `count * size` bytes. -/
theorem C02_coll_array_handout (cfg : Cfg) {arr arrLen : Nat} {c : Coll} {live : List (Nat × Nat)} (hI : CInv arr arrLen c live)
    (hg : c.Grid live) (hf : cfg.fence ≤ 2 ^ 32) (count size : Nat) (env : List (Option Nat)) {l : AnyList}
    (hl : c.lists[c.listIndex size]? = some l)
    (hb : BlocksOk (c.allocateArray cfg count size env).st.arena.used) {a : Nat}
    (hout : (c.allocateArray cfg count size env).out = .ok a) :
    let st := (c.allocateArray cfg count size env).st
    alignOfNs (c.nsOf size) ∣ a ∧ (∀ s, st.nsOf s = c.nsOf s) ∧
    (∀ t, t < arrCells (c.nsOf size) count size →
      (a + t * c.nsOf size, size) ∈ ledgerArr st live count size (.ok a) ∧ alignOfNs (c.nsOf size) ∣ a + t * c.nsOf size) ∧
    mul64 count size ≤ arrCells (c.nsOf size) count size * c.nsOf size ∧ 0 < arrCells (c.nsOf size) count size := by
  intro st
  have hk := (Coll.allocateArray_served cfg c count size env).keptRun hI hf hb
  have hlg := (hk.grid hg).2
  rw [hout] at hlg
  have hns := hk.ns hg
  have hpos : 0 < c.nsOf size := by
    rw [Coll.nsOf_eq hl]
    exact (hg.1 l (List.mem_of_getElem? hl)).pos
  have hmem : ∀ t, t < arrCells (c.nsOf size) count size →
      (a + t * c.nsOf size, size) ∈ ledgerArr st live count size (.ok a) := by
    intro t ht
    rw [ledgerArr_ok, hns]
    exact List.mem_append_left _ (mem_arrEntries.mpr ⟨t, ht, rfl⟩)
  have hal : ∀ t, t < arrCells (c.nsOf size) count size → alignOfNs (c.nsOf size) ∣ a + t * c.nsOf size := by
    intro t ht
    have := hlg _ (hmem t ht)
    rwa [hns] at this
  have hcpos : 0 < arrCells (c.nsOf size) count size := cellsOf_pos _ _ hpos
  exact ⟨by simpa using hal 0 hcpos, hns, fun t ht => ⟨hmem t ht, hal t ht⟩, le_cellsOf_mul _ _ hpos, hcpos⟩

theorem alignOfNs_eq {n j q : Nat} (hn : n = 2 ^ j * (2 * q + 1)) (hlt : n < 2 ^ 64) : alignOfNs n = 2 ^ min j 4 :=
  C19.alignmentFor_toNat _ j q (by rw [Bits.toNat_ofNat_lt hlt]; exact hn)

theorem alignOfNs_dvd_pow {size k : Nat} (h0 : 0 < size) (hle : size ≤ 2 ^ k) (hk : 2 ^ k < 2 ^ 64) :
    alignOfNs size ∣ alignOfNs (2 ^ k) := by
  obtain ⟨j, q, hd⟩ := Arith.exists_pow_odd size h0
  have hjk : 2 ^ j ≤ 2 ^ k := by
    refine Nat.le_trans ?_ hle
    rw [hd]
    exact Nat.le_mul_of_pos_right _ (Nat.succ_pos _)
  have hjk' : j ≤ k := (Nat.pow_le_pow_iff_right (by decide)).mp hjk
  rw [alignOfNs_eq hd (Nat.lt_of_le_of_lt hle hk), alignOfNs_eq (j := k) (q := 0) (Nat.mul_one _).symm hk]
  exact Nat.pow_dvd_pow 2 (Nat.le_min.mpr ⟨Nat.le_trans (Nat.min_le_left _ _) hjk', Nat.min_le_right _ _⟩)

/-- **log2 buckets honour the requested alignment**: `alignment_for(size)` divides `alignment_for(bucket node size)` -/
theorem C02_coll_requested_alignment_log2 {c : Coll} (hs : C01Coll.Sized c) (hp : c.policy = .log2) (size : Nat) (h0 : 0 < size)
    (hsz : size ≤ 2 ^ 63) {l : AnyList} (hl : c.lists[c.listIndex size]? = some l) :
    alignOfNs size ∣ alignOfNs (c.nsOf size) := by
  have hfit := C02Coll.C02_coll_size_log2 hs hp size h0 hsz hl
  have hns := C01Coll.nsOf_eq_bucketNodeSize hs size hl
  have hlt : size < 2 ^ 64 := Nat.lt_of_le_of_lt hsz (by decide)
  have hc : (ilog2Ceil (BitVec.ofNat 64 size)).toNat < 64 :=
    C19.ilog2Ceil_lt_64 _ (Bits.ofNat_ne_zero h0 hlt) (by rw [Bits.toNat_ofNat_lt hlt]; exact hsz)
  -- a log2 bucket's node size is a power of two, at least `2^3 = 8`
  have e3 : (ilog2Ceil 8#64).toNat = 3 := by decide
  have e8 : (8#64).toNat = 2 ^ 3 := rfl
  rw [hp, C19.bucketNodeSize_log2_toNat _ _ hc (by decide), e3, e8,
    Nat.max_eq_left (Nat.pow_le_pow_right (by decide) (Nat.le_max_right _ _))] at hns
  rw [hns] at hfit ⊢
  exact alignOfNs_dvd_pow h0 hfit (Bits.two_pow_lt (Nat.max_lt.mpr ⟨hc, by decide⟩))

/-- **identity buckets honour the requested alignment** -/
theorem C02_coll_requested_alignment_identity {c : Coll} (hs : C01Coll.Sized c) (hp : c.policy = .identity) (size : Nat)
    (h0 : 0 < size) (hsz : size < 2 ^ 64) {l : AnyList} (hl : c.lists[c.listIndex size]? = some l) :
    alignOfNs size ∣ alignOfNs (c.nsOf size) := by
  rw [C01Coll.nsOf_eq_bucketNodeSize hs size hl, hp, C19.bucketNodeSize_identity_toNat, Bits.toNat_ofNat_lt hsz]
  show alignOfNs size ∣ alignOfNs (max size 8)
  rcases Nat.le_total 8 size with h8 | h8
  · rw [Nat.max_eq_left h8]
    exact Nat.dvd_refl _
  · -- below the minimum element size the bucket has nodes of `8 = 2^3` bytes
    rw [Nat.max_eq_right h8]
    exact alignOfNs_dvd_pow (k := 3) h0 h8 (by decide)

/-- the hypotheses are satisfiable (a test, labelled as a test): a constructed collection (`C01_coll_create`,
`C02_coll_create_grid` give `CInv` and `Grid`) hands out an array of 5 x 24 bytes from its 24-byte bucket — third
stage included (`40 x 16` exceeds the default refill) — and the bases are multiples of 8 resp. 16 -/
def demo : Bool :=
  let cfg : Cfg := { fence := 8, dblDealloc := true, assert := true }
  match Coll.create cfg (.growing 2 1 2000) "ord" .identity true 24 [some 4096] with
  | (some c0, _, _) =>
    let r1 := c0.allocateArray cfg 5 24 [some 65536, some 300000]
    let r2 := r1.st.allocateArray cfg 40 16 [some 65536, some 300000]
    (match r1.out, r2.out with
     | .ok a, .ok b => decide (a % 8 = 0) && decide (b % 16 = 0) && decide (c0.nsOf 24 = 24) && decide (r2.st.nsOf 16 = 16)
     | _, _ => false)
  | _ => false

example : demo = true := by decide +kernel

end MemVerif.Props.C02CollArr
