import MemVerif.Lemmas.ScopeMono
import MemVerif.Lemmas.ReplayCex
/-!
# C06 — unwinding a memory stack restores exactly the state at the marker

Model: `MemVerif.Model.MemStack` (Stack.lean), histories `SOp` with nested marker scopes (StackRun.lean):
`scope ops` is `m := top(); ops; unwind(m)`. All statements quantify over every configuration `cfg` (fences,
assertions, pointer checks on or off), every upstream environment `e`, every reachable (`Inv`) state and every
history, with no bound on length or nesting depth.

Hypotheses that appear below and why (each was *forced* by the proof; the counterexamples are machine-checked in
`Lemmas/ReplayCex.lean`):
* `hsrc` — the block source is not `static_block_allocator`: the model's `acquired` list is built from upstream
  events, which a static source does not emit (`scope_restores_counterexample`). Static sources are covered by
  the correspondence check only.
* `hlen` — fewer than 2^64 blocks exist: `unwind` computes the number of blocks to pop in `size_t`
  (`wrap_counterexample`; needs an upstream that hands out the same block 2^64 times).

`C06_unwind_no_upstream` and `C06_marker_monotone` need neither: they hold for every state with a cached arena.
-/
namespace MemVerif.Props.C06
open MemVerif.Model

/-- **Unwind restores.** Running any history inside a marker scope and unwinding gives back the top pointer and the
used blocks of the state at the marker; the blocks acquired meanwhile are kept in the cache behind the previously
cached ones; no pointer check / assertion fires (`ok`); the leak counter and the invariant are kept. -/
theorem C06_unwind_restores (cfg : Cfg) (e : EnvS) (s : MemStack) (hs : s.Inv) (k : Nat) (ops : List SOp)
    (hacq : ∀ b ∈ (runOp cfg e s k (.scope ops)).acquired, b.Wf)
    (hsrc : ∀ c en b, s.arena.src ≠ .static_ c en b)
    (hlen : s.arena.used.length + s.arena.cached.length + (runOp cfg e s k (.scope ops)).acquired.length < 2 ^ 64) :
    let r := runOp cfg e s k (.scope ops)
    r.ok = true ∧ r.st.cur = s.cur ∧ r.st.arena.used = s.arena.used ∧
      r.st.arena.cached = s.arena.cached ++ r.acquired ∧ r.st.leak = s.leak ∧ r.st.Inv := by
  have hp := Pre.of_inv hs hsrc
  rw [scope_acquired cfg e s k ops hp.ne] at hlen
  have h := scope_res cfg e s k ops hp hlen
  refine ⟨h.ok, h.cur, h.used, h.cached, h.leak, ?_, h.isCached, ?_, ?_, ?_⟩
  · rw [h.used]
    exact hs.nonempty
  · rw [h.used]
    exact hs.wfUsed
  · rw [h.cached]
    intro b hb
    rcases List.mem_append.mp hb with hb | hb
    · exact hs.wfCached b hb
    · exact hacq b hb
  · rw [h.used, h.cur]
    exact hs.curIn

/-- **Capacity restored** (corollary): `capacity_left` after the scope equals `capacity_left` at the marker. -/
theorem C06_capacity_restored (cfg : Cfg) (e : EnvS) (s : MemStack) (hs : s.Inv) (k : Nat) (ops : List SOp)
    (hacq : ∀ b ∈ (runOp cfg e s k (.scope ops)).acquired, b.Wf)
    (hsrc : ∀ c en b, s.arena.src ≠ .static_ c en b)
    (hlen : s.arena.used.length + s.arena.cached.length + (runOp cfg e s k (.scope ops)).acquired.length < 2 ^ 64) :
    (runOp cfg e s k (.scope ops)).st.capacityLeft = s.capacityLeft := by
  obtain ⟨_, h1, h2, _⟩ := C06_unwind_restores cfg e s hs k ops hacq hsrc hlen
  unfold MemStack.capacityLeft MemStack.blockEnd Arena.currentBlock
  rw [h1, h2]

/-- **Replay.** After the scope, the same requests yield the same results (addresses) as the first time,
served entirely from the block cache (nothing is acquired) — provided the first run saw no upstream failure. -/
theorem C06_replay_same_addresses (cfg : Cfg) (e e' : EnvS) (s : MemStack) (hs : s.Inv) (k k' : Nat)
    (ops : List SOp) (hnofail : ∀ o ∈ (runOps cfg e s k ops).outs, o ≠ .throws .upstream)
    (hsrc : ∀ c en b, s.arena.src ≠ .static_ c en b)
    (hlen : s.arena.used.length + s.arena.cached.length + (runOps cfg e s k ops).acquired.length < 2 ^ 64) :
    let u := (runOp cfg e s k (.scope ops)).st
    (runOps cfg e' u k' ops).outs = (runOps cfg e s k ops).outs ∧ (runOps cfg e' u k' ops).acquired = [] := by
  have hp := Pre.of_inv hs hsrc
  have h := scope_res cfg e s k ops hp hlen
  have hacq := scope_acquired cfg e s k ops hp.ne
  -- the state after the scope is the start state with the acquired blocks appended to the cache
  have hsim : Sim s (runOp cfg e s k (.scope ops)).st ((runOps cfg e s k ops).acquired ++ []) := by
    refine ⟨h.cur.symm, h.used.symm, ?_, hp.cached, h.isCached, ?_⟩
    · rw [h.cached, hacq, List.append_nil]
    · rw [List.append_nil, ← hacq]
      exact h.src.toSim
  obtain ⟨h1, h2, _⟩ := sim_ops cfg e e' ops s _ k k' [] hsim hnofail
  exact ⟨h1, h2⟩

/-- **Unwinding never talks to the block source**: blocks are kept for reuse until `shrink_to_fit`. -/
theorem C06_unwind_no_upstream (cfg : Cfg) (s : MemStack) (m : Marker) (hc : s.arena.isCached = true) :
    (s.unwindEv cfg m).2.2 = [] := by
  rw [unwindEv_core cfg hc]
  rfl

/-- **Markers are totally ordered** (strict order, trichotomy). -/
theorem C06_marker_order (a b c : Marker) :
    a.lt a = false ∧ (a.lt b = true → b.lt c = true → a.lt c = true) ∧
      (a.lt b = true ∨ b.lt a = true ∨ (a.index = b.index ∧ a.top = b.top)) := by
  refine ⟨?_, ?_, ?_⟩
  · simp [Marker.lt]
  · simp only [Marker.lt_iff]
    omega
  · simp only [Marker.lt_iff]
    omega

-- Of `hs` only `s.arena.isCached` is used, and `hw`, `hf`, `hacq` not at all.
set_option linter.unusedVariables false in
/-- **Marker order agrees with allocation order**: a marker taken later (after any history, nested scopes
included) is never below an earlier one. -/
theorem C06_marker_monotone (cfg : Cfg) (e : EnvS) (s : MemStack) (hs : s.Inv) (k : Nat) (ops : List SOp)
    (hw : SOpsWf ops) (hf : cfg.fence ≤ 2 ^ 16) (hacq : ∀ b ∈ (runOps cfg e s k ops).acquired, b.Wf) (m m' : Marker)
    (hm : s.top = some m) (hm' : (runOps cfg e s k ops).st.top = some m') : m.le m' = true := by
  obtain ⟨extra, hu, hcur⟩ := (mono_ops cfg e ops s k hs.cached).ext
  obtain ⟨hne, hidx, htop, _⟩ := top_eq hm
  obtain ⟨_, hidx', htop', _⟩ := top_eq hm'
  rw [Marker.le_iff, hidx, hidx', htop, htop', hu, List.length_append_sub_one hne]
  cases extra with
  | nil => exact .inr ⟨rfl, hcur rfl⟩
  | cons => exact .inl (Nat.lt_add_of_pos_right (Nat.succ_pos _))

/-- The hypotheses of `C06_unwind_restores` cannot simply be dropped: refutations of the statement without `hsrc`
(static source) and without `hlen` (2^64 blocks). -/
theorem C06_hypotheses_needed :
    (∃ (cfg : Cfg) (e : EnvS) (s : MemStack) (k : Nat) (ops : List SOp),
      s.Inv ∧ SOpsWf ops ∧ cfg.fence ≤ 2 ^ 16 ∧ (∀ b ∈ (runOp cfg e s k (.scope ops)).acquired, b.Wf) ∧
      (runOp cfg e s k (.scope ops)).st.arena.cached ≠ s.arena.cached ++ (runOp cfg e s k (.scope ops)).acquired) ∧
    (∃ (cfg : Cfg) (e e' : EnvS) (s : MemStack) (k k' : Nat) (ops : List SOp),
      s.Inv ∧ SOpsWf ops ∧ cfg.fence ≤ 2 ^ 16 ∧ (∀ b ∈ (runOps cfg e s k ops).acquired, b.Wf) ∧
      (∀ b ∈ (runOp cfg e s k (.scope ops)).acquired, b.Wf) ∧
      (∀ o ∈ (runOps cfg e s k ops).outs, o ≠ .throws .upstream) ∧
      (runOp cfg e s k (.scope ops)).st.arena.used ≠ s.arena.used ∧
      (runOps cfg e' (runOp cfg e s k (.scope ops)).st k' ops).outs ≠ (runOps cfg e s k ops).outs) :=
  ⟨scope_restores_counterexample, wrap_counterexample⟩

/-- non-vacuity: a fresh stack over a growing source on a 4096-byte block satisfies `Inv` and the side conditions -/
example : let s : MemStack := { arena := { src := .growing 2 1 8192, isCached := true, used := [⟨1048576, 4096⟩] }, cur := 1048592 }
    s.Inv ∧ ∀ c en b, s.arena.src ≠ .static_ c en b := by
  intro s
  exact ⟨.single ⟨by decide, by decide, by decide⟩ (by decide) (by decide), nofun⟩

end MemVerif.Props.C06
