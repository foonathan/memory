import MemVerif.Model.Pool
import MemVerif.Props.C05
/-!
# C12 — moving an allocator transfers all its memory; the moved-from object is harmless

The move operations of the models: the destination receives the complete state (blocks, free nodes, top pointer, leak
count), the source becomes the documented empty state, and destroying the source makes no upstream call and reports
no leak. That every later operation on the destination behaves as it would have on the source is then immediate
(the destination *is* the source state); the re-linking of the intrusive sentinels is covered by the correspondence
(state dumps after every move walk the real links).
-/
namespace MemVerif.Props.C12
open MemVerif.Model

/-- memory_stack: the new owner has exactly the old state; the moved-from stack is empty -/
theorem C12_stack_move (s : MemStack) : (s.moveOut).1 = s ∧ (s.moveOut).2.arena.used = [] ∧
    (s.moveOut).2.arena.cached = [] ∧ (s.moveOut).2.cur = 0 ∧ (s.moveOut).2.leak = 0 := ⟨rfl, rfl, rfl, rfl, rfl⟩

/-- destroying a moved-from memory_stack: no upstream call, no leak report, in every configuration -/
theorem C12_stack_moved_from_inert (cfg : Cfg) (s : MemStack) :
    ((s.moveOut).2.destroy cfg).2.1 = [] ∧ ((s.moveOut).2.destroy cfg).2.2 = none := by
  refine ⟨?_, ?_⟩
  · exact C05.C05_moved_from_inert cfg s.arena
  · simp [MemStack.destroy, MemStack.moveOut]

/-- destroying a moved-from arena makes no upstream call (growing, fixed and static sources; cached or not) -/
theorem C12_arena_moved_from_inert (cfg : Cfg) (a : Arena) : (a.movedFrom.destroy cfg).2.1 = [] :=
  C05.C05_moved_from_inert cfg a

/-- iteration_allocator: the moved-from object (`cur_ == N`) does not return its block a second time -/
theorem C12_iter_moved_from_inert (cfg : Cfg) (it : Iter) : (it.movedFrom.destroy cfg).2 = [] := by
  simp [Iter.destroy, Iter.movedFrom]

/-- and the live one returns it exactly once (a second destruction is inert) -/
theorem C12_iter_destroy_once (cfg : Cfg) (it : Iter) : ((it.destroy cfg).1.destroy cfg).2 = [] := by
  unfold Iter.destroy
  split
  · simp
  · rfl

/-- ordered free list: the move hands over every node and the capacity, re-bases the proxies, resets the cursor to
the front; the source is left without nodes -/
theorem C12_ordlist_move (l : OrdList) (B' E' : Nat) :
    (l.moveTo B' E').1.nodes = l.nodes ∧ (l.moveTo B' E').1.cap = l.cap ∧ (l.moveTo B' E').1.ns = l.ns ∧
      (l.moveTo B' E').1.B = B' ∧ (l.moveTo B' E').1.E = E' ∧ (l.moveTo B' E').1.ldp = B' ∧
      (l.moveTo B' E').2.nodes = [] ∧ (l.moveTo B' E').2.cap = 0 := ⟨rfl, rfl, rfl, rfl, rfl, rfl, rfl, rfl⟩

/-- the cursor of the moved-to list is a valid adjacent pair (begin proxy, first node or end proxy) -/
theorem C12_ordlist_move_cursor (l : OrdList) (B' E' : Nat) (hBE : B' ≠ E') (hB : B' ∉ l.nodes) (hE : E' ∉ l.nodes) :
    (l.moveTo B' E').1.posOf (l.moveTo B' E').1.ldp = some 0 ∧ (l.moveTo B' E').1.posOf (l.moveTo B' E').1.ld = some 1 := by
  constructor
  · simp [OrdList.moveTo, OrdList.posOf]
  · cases hn : l.nodes with
    | nil => simp [OrdList.moveTo, OrdList.posOf, hn, Ne.symm hBE]
    | cons x xs =>
      have hxB : x ≠ B' := fun h => hB (hn ▸ h ▸ List.mem_cons_self)
      have hxE : x ≠ E' := fun h => hE (hn ▸ h ▸ List.mem_cons_self)
      simp [OrdList.moveTo, OrdList.posOf, hn, hxB, hxE, List.idxOf?]
      simp [List.findIdx?_cons]

end MemVerif.Props.C12
