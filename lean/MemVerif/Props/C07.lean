import MemVerif.Lemmas.Iter
/-!
# C07 — iteration allocator: memory lives exactly N iterations; regions are disjoint

Model: `MemVerif.Model.Iter` (Stack.lean): `block`, `tops[i]`, `cur`; `blockStart i = base + i*size/N` exactly as the
source computes it (in `size_t`). Statements hold for every `N ≥ 1` and **every** block size (in particular
`size mod N ≠ 0`), every configuration, every operation history.
-/
namespace MemVerif.Props.C07
open MemVerif.Model

/-- The `N` regions tile the block: they start at the block's base, end at its end, and are ordered. -/
theorem C07_regions_partition (it : Iter) (g : it.Geo) :
    it.blockStart 0 = it.block.base ∧ it.blockStart it.n = it.block.base + it.block.size ∧
      (∀ i j, i < j → j < it.n → it.blockEnd i ≤ it.blockStart j) ∧
      (∀ i, i < it.n → it.block.base ≤ it.blockStart i ∧ it.blockStart i ≤ it.blockEnd i ∧
        it.blockEnd i ≤ it.block.base + it.block.size) :=
  ⟨it.blockStart_zero g, it.blockStart_n g, fun _ _ hij hj => it.blockStart_mono g hij (Nat.le_of_lt hj),
   fun i hi => ⟨(it.region_inside g hi).1, it.blockStart_mono g (Nat.le_succ i) (by omega), (it.region_inside g hi).2⟩⟩

/-- The constructor establishes the invariant "every stack's top lies in its own region"
(this is the statement that was false before the D4 repair: stacks started at `i * (size / N)`). -/
theorem C07_create_inv (n : Nat) (src : Src) (env : List (Option Nat)) (it : Iter) (ev : List UpEv)
    (h : Iter.create n src env = (some it, .done, ev)) (g : it.Geo) : it.Inv ∧ it.cur = 0 ∧
      ∀ i, i < it.n → it.tops.getD i 0 = it.blockStart i := by
  unfold Iter.create at h
  split at h <;> try (simp at h)
  rename_i s b ev' env' _
  obtain ⟨rfl, _⟩ := h
  -- the stacks start at the region starts, which depend on `n` and the block only
  have hget : ∀ i, i < n → ((List.range n).map (Iter.blockStart ⟨n, s, b, [], 0⟩)).getD i 0 =
      Iter.blockStart ⟨n, s, b, [], 0⟩ i := fun i hi => by
    simp [List.getD, hi]
  refine ⟨⟨g, by simp, g.npos, fun i hi => ?_⟩, rfl, hget⟩
  rw [hget i hi]
  exact ⟨Nat.le_refl _, Iter.blockStart_mono _ g (Nat.le_succ i) hi⟩

/-- Every successful allocation lies inside the region of the current iteration, aligned, with its fences,
and does not touch the stacks of other iterations (for `allocate` and `try_allocate` alike). -/
theorem C07_alloc_in_region (cfg : Cfg) (it : Iter) (hI : it.Inv) (size k : Nat) (hk : k < 48) (hs : size < 2 ^ 64)
    (hf : cfg.fence ≤ 2 ^ 16) (p : Nat) (it' : Iter)
    (h : it.tryAllocate cfg size (2 ^ k) = (it', .ok p)) :
    it'.Inv ∧ p % 2 ^ k = 0 ∧ it.blockStart it.cur ≤ p ∧ p + size ≤ it.blockEnd it.cur ∧
      (∀ j, j ≠ it.cur → it'.tops.getD j 0 = it.tops.getD j 0) := by
  rcases it.tryAllocate_cases cfg size (2 ^ k) with ⟨_, hr⟩ | ⟨p', c, hfa, hr⟩
  · rw [hr] at h
    cases h
  · rw [hr] at h
    cases h
    obtain ⟨a1, a2, a3, a4, a5, _, a6⟩ := Iter.alloc_step cfg it hI hk hs hf hfa
    have ht := (hI.topIn it.cur hI.cur).1
    exact ⟨a1, a2, Nat.le_trans ht (Nat.le_trans (Nat.le_add_right _ _) a3),
      Nat.le_trans (Nat.le_add_right _ cfg.fence) (a4 ▸ a5), a6⟩

/-- The throwing `allocate` serves exactly the requests `try_allocate` serves, with the same result and state;
where `try_allocate` answers null it throws `out_of_fixed_memory` and changes nothing. -/
theorem C07_allocate_eq_try (cfg : Cfg) (it : Iter) (size align : Nat) (ht : it.tops.getD it.cur 0 < 2 ^ 64) :
    it.allocate cfg size align =
      match it.tryAllocate cfg size align with
      | (_, .null) => (it, .throws .oofm)
      | r => r := by
  unfold Iter.allocate Iter.tryAllocate
  dsimp only
  rw [fixedAllocate_eq, Nat.mod_eq_of_lt ht]
  generalize it.tops.getD it.cur 0 = top
  by_cases h0 : top = 0
  · simp [h0]
  · cases fits cfg.fence (alignOff (top + cfg.fence) align) size (sub64 (it.blockEnd it.cur) top)
    · simp [h0]
    · simp [h0]

/-- Switching makes the full capacity of the new current region available and leaves every other region as it was. -/
theorem C07_full_capacity_on_switch (it : Iter) (hI : it.Inv) :
    it.nextIteration.Inv ∧ it.nextIteration.cur = (it.cur + 1) % it.n ∧
      it.nextIteration.capacityLeft it.nextIteration.cur =
        it.blockEnd ((it.cur + 1) % it.n) - it.blockStart ((it.cur + 1) % it.n) ∧
      (∀ j, j ≠ (it.cur + 1) % it.n → it.nextIteration.tops.getD j 0 = it.tops.getD j 0) :=
  Iter.next_inv it hI

/-- **Lifetime.** The stack (hence the memory) of the iteration that was current is not reset by fewer than `N`
calls of `next_iteration`; the `N`-th call returns to it. -/
theorem C07_lifetime (it : Iter) (hI : it.Inv) :
    (∀ k, k < it.n → (it.nextN k).tops.getD it.cur 0 = it.tops.getD it.cur 0 ∧ ((0 < k) → (it.nextN k).cur ≠ it.cur)) ∧
      (it.nextN it.n).cur = it.cur := by
  refine ⟨fun k hk => ⟨it.nextN_keeps hI k hk, fun hk0 => ?_⟩, ?_⟩
  · rw [(it.nextN_spec hI k).2.1]
    exact Nat.add_mod_ne_self hI.cur hk0 hk
  · rw [(it.nextN_spec hI it.n).2.1, Nat.add_mod_right]
    exact Nat.mod_eq_of_lt hI.cur

/-- non-vacuity: a concrete 3-iteration allocator over a 1025-byte block (the D4 reproducer) satisfies the hypotheses -/
example : (⟨3, .fixed 0, ⟨1048576, 1025⟩, [1048576, 1048917, 1049259], 0⟩ : Iter).Geo :=
  ⟨by decide, by decide, by decide, by decide, by decide⟩

end MemVerif.Props.C07
