import MemVerif.Model.Compose
import MemVerif.Lemmas.Arith
import MemVerif.Lemmas.Util
/-!
# C09 — adapters forward every request faithfully and release with matching parameters

Statements are by structural induction over composition expressions of **any depth** (the property's depth ≤ 3 is a special
case), for every request shape, size, count and alignment, through the throwing and the composable interface.
-/
namespace MemVerif.Props.C09
open MemVerif.Model

def Req.WF (r : Req) : Prop := r.arr = false → r.count = 1

/-- `count * size` does not wrap (`size_t`); the wrapped case is finding D21 -/
def Req.NoOverflow (r : Req) : Prop := r.count * r.size < 2 ^ 64

theorem bytes_node {r : Req} (h : r.arr = false) : r.bytes = r.size := by
  rw [Req.bytes, h]
  rfl

theorem leafReq_spec (ha : Bool) (r : Req) :
    (leafReq ha r).bytes = r.bytes ∧ (leafReq ha r).align = r.align ∧ (leafReq ha r).arr = (r.arr && ha) := by
  obtain ⟨arr, count, size, align⟩ := r
  cases ha <;> cases arr <;> exact ⟨rfl, rfl, rfl⟩

theorem anyReq_spec (r : Req) (hw : Req.WF r) :
    r.bytes ≤ (anyReq r).bytes ∧ (anyReq r).align = r.align ∧ Req.WF (anyReq r) ∧ (r.arr = false → (anyReq r).arr = false) := by
  unfold anyReq
  split
  · next h =>
    -- an array of one element becomes a node of `size` bytes: no less than the product taken in `size_t`
    refine ⟨?_, rfl, fun _ => rfl, fun _ => rfl⟩
    unfold Req.bytes
    split
    · rw [h]
      exact Nat.le_trans (mul64_le 1 r.size) (Nat.le_of_eq (Nat.one_mul _))
    · exact Nat.le_refl _
  · next h =>
    -- a request with another count is an array (`WF`) and passes unchanged
    have harr : r.arr = true := Bool.of_not_eq_false (mt hw h)
    have he : Req.array r.count r.size r.align = r := by rw [Req.array, ← harr]
    rw [he]
    exact ⟨Nat.le_refl _, rfl, hw, id⟩

/-- `Sees e r c`: the request `r` to `e` can reach a leaf as the call `c`, through some interface and for some behaviour of
the leaves. What holds of every leaf call is proved by induction on this relation; the leaf calls of `route` are
characterised once, in `route_sees`. -/
inductive Sees : AExpr → Req → LeafCall → Prop
  | leaf (i ha r k ok) : Sees (.leaf i ha) r ⟨i, k, leafReq ha r, ok⟩
  | aligned {m a r c} : Sees a { r with align := max m r.align } c → Sees (.aligned m a) r c
  | tracked {a r c} : Sees a r c → Sees (.tracked a) r c
  | fallbackD {d f r c} : Sees d r c → Sees (.fallback d f) r c
  | fallbackF {d f r c} : Sees f r c → Sees (.fallback d f) r c
  | segS {m s f r c} : segUses m r = true → Sees s r c → Sees (.segregator m s f) r c
  | segF {m s f r c} : segUses m r = false → Sees f r c → Sees (.segregator m s f) r c
  | storage {a r c} : Sees a r c → Sees (.storage a) r c
  | anyRef {a r c} : Sees a (anyReq r) c → Sees (.anyRef a) r c

theorem route_sees (e : AExpr) : ∀ (t : Bool) (r : Req) (ans : List Bool), ∀ c ∈ (route t e r ans).calls, Sees e r c := by
  induction e with
  | leaf i ha => intro t r ans c hc; rw [List.mem_singleton.1 hc]; exact .leaf ..
  | aligned m a ih => intro t r ans c hc; exact .aligned (ih t _ ans c hc)
  | tracked a ih => intro t r ans c hc; exact .tracked (ih t r ans c hc)
  | fallback d f ihd ihf =>
    intro t r ans c hc
    simp only [route] at hc
    split at hc
    · exact .fallbackD (ihd false r ans c hc)
    · rcases List.mem_append.1 hc with hc | hc
      · exact .fallbackD (ihd false r ans c hc)
      · exact .fallbackF (ihf t r _ c hc)
  | segregator m s f ihs ihf =>
    intro t r ans c hc
    simp only [route] at hc
    split at hc
    · next h => exact .segS h (ihs t r ans c hc)
    · next h => exact .segF (Bool.not_eq_true _ ▸ h) (ihf t r ans c hc)
  | storage a ih => intro t r ans c hc; exact .storage (ih t r ans c hc)
  | anyRef a ih => intro t r ans c hc; exact .anyRef (ih t _ ans c hc)

/-- No hypothesis on `count * size` is needed: `Req.bytes` is the `size_t` product already. (`C09_forward_ge` carries
`Req.NoOverflow r` in its statement and does not use it.) -/
theorem Sees.forward {e : AExpr} {r : Req} {c : LeafCall} (h : Sees e r c) (hw : Req.WF r) :
    r.bytes ≤ c.req.bytes ∧ r.align ≤ c.req.align ∧ (r.arr = false → c.req.arr = false) := by
  induction h with
  | leaf i ha r k ok =>
    obtain ⟨h1, h2, h3⟩ := leafReq_spec ha r
    exact ⟨Nat.le_of_eq h1.symm, Nat.le_of_eq h2.symm, fun h => h3.trans (by rw [h, Bool.false_and])⟩
  | aligned _ ih => exact ⟨(ih hw).1, Nat.le_trans (Nat.le_max_right ..) (ih hw).2.1, (ih hw).2.2⟩
  | tracked _ ih | storage _ ih | fallbackD _ ih | fallbackF _ ih | segS _ _ ih | segF _ _ ih => exact ih hw
  | @anyRef a r c _ ih =>
    obtain ⟨h1, h2, h3, h4⟩ := anyReq_spec r hw
    obtain ⟨i1, i2, i3⟩ := ih h3
    exact ⟨Nat.le_trans h1 i1, h2 ▸ i2, fun h => i3 (h4 h)⟩

/-- **Forwarded faithfully** (any composition, both interfaces, any leaf behaviour): every call a leaf sees asks for at
least the requested number of bytes at an alignment no smaller than requested. -/
theorem C09_forward_ge (e : AExpr) : ∀ (t : Bool) (r : Req) (ans : List Bool), Req.WF r → Req.NoOverflow r →
    ∀ c ∈ (route t e r ans).calls, r.bytes ≤ c.req.bytes ∧ r.align ≤ c.req.align :=
  fun t r ans hw _ c hc => let h := (route_sees e t r ans c hc).forward hw; ⟨h.1, h.2.1⟩

/-- **One request**: a served allocation is served by exactly one leaf call, a failed one by none (the default of a
fallback allocator that declines hands out nothing). -/
theorem C09_single_service (e : AExpr) : ∀ (t : Bool) (r : Req) (ans : List Bool),
    ((route t e r ans).calls.filter (·.ok)).length = if (route t e r ans).ok then 1 else 0 := by
  induction e with
  | leaf i ha =>
    intro t r ans
    rcases ans with _ | ⟨_ | _, _⟩ <;> rfl
  | aligned m a ih => intro t r ans; exact ih t _ ans
  | tracked a ih | storage a ih => intro t r ans; exact ih t r ans
  | anyRef a ih => intro t r ans; exact ih t _ ans
  | fallback d f ihd ihf =>
    intro t r ans
    have hd := ihd false r ans
    rw [route]
    by_cases hok : (route false d r ans).ok = true
    · rw [if_pos hok]
      exact hd
    · -- the default declined: it served nothing, and the result is the fallback's
      rw [if_neg hok] at hd ⊢
      rw [List.filter_append, List.length_append, hd, Nat.zero_add]
      exact ihf t r _
  | segregator m s f ihs ihf =>
    intro t r ans
    rw [route]
    by_cases hseg : segUses m r = true
    · rw [if_pos hseg]
      exact ihs t r ans
    · rw [if_neg hseg]
      exact ihf t r ans

theorem served_call {t : Bool} {e : AExpr} {r : Req} {ans : List Bool} (hok : (route t e r ans).ok = true) :
    ∃ c ∈ (route t e r ans).calls, c.ok = true := by
  have h := C09_single_service e t r ans
  rw [hok] at h
  obtain ⟨c, hc⟩ := List.exists_mem_of_length_pos (Nat.lt_of_lt_of_eq Nat.one_pos h.symm)
  exact ⟨c, (List.mem_filter.1 hc).1, by simpa using (List.mem_filter.1 hc).2⟩

def leaves : AExpr → List Nat
  | .leaf i _ => [i]
  | .aligned _ a | .tracked a | .storage a | .anyRef a => leaves a
  | .fallback d f | .segregator _ d f => leaves d ++ leaves f

/-- every leaf occurs once (each sub-allocator is a distinct object) -/
def Distinct (e : AExpr) : Prop := (leaves e).Nodup

theorem Sees.leaf_mem {e : AExpr} {r : Req} {c : LeafCall} (h : Sees e r c) : c.leaf ∈ leaves e := by
  induction h with
  | leaf => exact List.mem_singleton.2 rfl
  | aligned _ ih | tracked _ ih | storage _ ih | anyRef _ ih => exact ih
  | fallbackD _ ih | segS _ _ ih => exact List.mem_append_left _ ih
  | fallbackF _ ih | segF _ _ ih => exact List.mem_append_right _ ih

theorem release_foreign (e : AExpr) : ∀ (r : Req) (owner : Nat), owner ∉ leaves e →
    (release false e r owner).2.1 = false ∧ ∀ c ∈ (release false e r owner).1, c.ok = false := by
  induction e with
  | leaf i ha =>
    intro r owner h
    have hne : (i == owner) = false := beq_false_of_ne fun e => h (List.mem_singleton.2 e.symm)
    simp only [release, Bool.false_eq_true, ↓reduceIte, hne, List.mem_singleton, forall_eq, and_self]
  | aligned m a ih => intro r owner h; exact ih _ owner h
  | tracked a ih | storage a ih => intro r owner h; exact ih r owner h
  | anyRef a ih => intro r owner h; exact ih _ owner h
  | fallback d f ihd ihf =>
    intro r owner h
    obtain ⟨hd, hf⟩ := not_or.1 (mt List.mem_append.2 h)
    simp only [release, (ihd r owner hd).1, Bool.false_eq_true, ↓reduceIte]
    exact ⟨(ihf r owner hf).1, fun c hc => (List.mem_append.1 hc).elim ((ihd r owner hd).2 c) ((ihf r owner hf).2 c)⟩
  | segregator m s f ihs ihf =>
    intro r owner h
    obtain ⟨hs, hf⟩ := not_or.1 (mt List.mem_append.2 h)
    simp only [release]
    split
    · exact ihs r owner hs
    · exact ihf r owner hf

/-- a release that the owner `o` performs with request `q` as the last call, after every leaf asked before it has declined -/
def Home (o : Nat) (q : Req) (x : List LeafCall × Bool × List TrackEv) : Prop :=
  x.2.1 = true ∧ ∃ pre k, x.1 = pre ++ [⟨o, k, q, true⟩] ∧ (∀ y ∈ pre, y.ok = false) ∧ (k = .dealloc ∨ k = .tryDealloc)

/-- Memory of the leaf that saw `c` under the user-level request `r` comes home when released with `r`: with `c.req`, whether
or not `c` was served and whatever the interface. -/
theorem Sees.release_home {e : AExpr} {r : Req} {c : LeafCall} (h : Sees e r c) :
    Distinct e → ∀ t' : Bool, Home c.leaf c.req (release t' e r c.leaf) := by
  induction h with
  | leaf i ha r k ok =>
    intro _ t'
    cases t'
    · simp only [release, Bool.false_eq_true, ↓reduceIte, beq_self_eq_true]
      exact ⟨rfl, [], .tryDealloc, rfl, fun _ h => absurd h List.not_mem_nil, .inr rfl⟩
    · simp only [release, ↓reduceIte]
      exact ⟨rfl, [], .dealloc, rfl, fun _ h => absurd h List.not_mem_nil, .inl rfl⟩
  | aligned _ ih | storage _ ih | anyRef _ ih | tracked _ ih => exact ih
  | @fallbackD d f r c hs ih =>
    intro hd t'
    obtain ⟨h1, h2⟩ := ih (List.nodup_append.1 hd).1 false
    simp only [release, h1, ↓reduceIte]
    exact ⟨rfl, h2⟩
  | @fallbackF d f r c hs ih =>
    intro hd t'
    have hnd := List.nodup_append.1 hd
    obtain ⟨g1, g2⟩ := release_foreign d r c.leaf fun h => hnd.2.2 _ h _ hs.leaf_mem rfl
    obtain ⟨h1, pre, k, h2, h3, h4⟩ := ih hnd.2.1 t'
    simp only [release, g1, Bool.false_eq_true, ↓reduceIte]
    refine ⟨h1, (release false d r c.leaf).1 ++ pre, k, by rw [h2, List.append_assoc], ?_, h4⟩
    intro y hy
    rcases List.mem_append.1 hy with hy | hy
    · exact g2 y hy
    · exact h3 y hy
  | segS hm _ ih => intro hd t'; simp only [release, hm, ↓reduceIte]; exact ih (List.nodup_append.1 hd).1 t'
  | segF hm _ ih =>
    intro hd t'; simp only [release, hm, Bool.false_eq_true, ↓reduceIte]; exact ih (List.nodup_append.1 hd).2.1 t'

/-- **Released with matching parameters, to the same leaf, exactly once.** If a request `r` through composition `e`
(any depth, any interleaving of served/declined leaf calls) was served by leaf call `c`, then releasing with the same
user-level parameters `r` — through the throwing or the composable interface — succeeds, and exactly one leaf performs a
release: the leaf that served it, with the kind, count, size and alignment `c` was made with. -/
theorem C09_release_matches (e : AExpr) : ∀ (_hd : Distinct e) (t t' : Bool) (r : Req) (ans : List Bool) (c : LeafCall),
    c ∈ (route t e r ans).calls → c.ok = true →
    (release t' e r c.leaf).2.1 = true ∧
    ((release t' e r c.leaf).1.filter (·.ok)) =
      [⟨c.leaf, if (release t' e r c.leaf).1.getLast?.map (·.kind) = some .dealloc then .dealloc else .tryDealloc, c.req, true⟩] := by
  intro hd t t' r ans c hc _
  obtain ⟨h1, pre, k, h2, h3, h4⟩ := (route_sees e t r ans c hc).release_home hd t'
  have hf : pre.filter (·.ok) = [] := List.filter_eq_nil_iff.2 fun y hy => by simp [h3 y hy]
  refine ⟨h1, ?_⟩
  rw [h2, List.filter_append, hf]
  rcases h4 with rfl | rfl <;> simp

def TrackFree : AExpr → Prop
  | .leaf _ _ => True
  | .tracked _ => False
  | .aligned _ a | .storage a | .anyRef a => TrackFree a
  | .fallback d f | .segregator _ d f => TrackFree d ∧ TrackFree f

theorem route_track_free (e : AExpr) : TrackFree e → ∀ t r ans, (route t e r ans).track = [] := by
  induction e with
  | leaf i ha => intro _ t r ans; rfl
  | aligned m a ih => intro h t r ans; exact ih h t _ ans
  | tracked a ih => intro h; exact h.elim
  | fallback d f ihd ihf =>
    intro h t r ans
    simp only [route]
    split
    · exact ihd h.1 false r ans
    · simp [ihd h.1, ihf h.2]
  | segregator m s f ihs ihf =>
    intro h t r ans
    simp only [route]
    split
    · exact ihs h.1 t r ans
    · exact ihf h.2 t r ans
  | storage a ih => intro h t r ans; exact ih h t r ans
  | anyRef a ih => intro h t r ans; exact ih h t _ ans

/-- **Trackers see every successful operation exactly once and no failed one** -/
theorem C09_tracker_once (a : AExpr) (h : TrackFree a) (t : Bool) (r : Req) (ans : List Bool) :
    (route t (.tracked a) r ans).track = if (route t (.tracked a) r ans).ok then [⟨true, r⟩] else [] := by
  simp only [route, route_track_free a h, List.nil_append]

/-- `std_allocator`: the node/array decision depends only on `n`, so `deallocate(p, n)` repeats it identically -/
theorem C09_std_allocator_same_decision (n s a : Nat) :
    stdReq n s a = (if n = 1 then Req.node s a else Req.array n s a) ∧ Req.WF (stdReq n s a) := by
  refine ⟨rfl, ?_⟩
  unfold stdReq
  split
  · intro _; rfl
  · intro h; simp [Req.array] at h

/-- `memory_resource_adapter` forwards at least `bytes`, and releases with the same split **if `max_node_size()` of the
wrapped allocator is the same at both calls** (`…_partial`: over allocators whose maximum shrinks the split is recomputed
from the current value — recorded finding D24, see the counterexample below) -/
theorem C09_mra_forward_partial (bytes align maxNode : Nat) (hm : 0 < maxNode) :
    let r := mraReq bytes align maxNode
    bytes ≤ r.count * r.size ∧ r.align = align ∧ Req.WF r := by
  intro r
  by_cases h : bytes ≤ maxNode
  · have hr : r = Req.node bytes align := if_pos h
    rw [hr]
    exact ⟨Nat.le_of_eq (Nat.one_mul _).symm, rfl, fun _ => rfl⟩
  · have hr : r = Req.array (bytes / maxNode + (if bytes % maxNode ≠ 0 then 1 else 0)) maxNode align := if_neg h
    rw [hr]
    -- the count is the ceiling of `bytes / maxNode`
    exact ⟨(Nat.ceilDiv_le_iff hm).1 (Nat.le_refl _), rfl, nofun⟩

/-- D24: the same 600-byte block is a node while `max_node_size()` is 1024 and an array of 5 x 124 once it is 124 -/
theorem C09_mra_release_counterexample : mraReq 600 8 1024 = Req.node 600 8 ∧ mraReq 600 8 124 = Req.array 5 124 8 := by decide

/-- nested fallbacks over three leaves, the middle one without array support: an array request declined by the first
two leaves reaches the third, and its release comes home with the same shape -/
example :
    let e := AExpr.fallback (.fallback (.leaf 0 true) (.leaf 1 false)) (.tracked (.aligned 8 (.leaf 2 true)))
    let x := route true e (Req.array 3 8 1) [false, false, true]
    x.calls.map LeafCall.str = ["L0:try_alloc:arr:3:8:1:0", "L1:try_alloc:node:24:1:0", "L2:alloc:arr:3:8:8:1"] ∧
    x.track.map TrackEv.str = ["on_alloc:arr:3:8:1"] ∧
    (release true e (Req.array 3 8 1) 2).1.map LeafCall.str =
      ["L0:try_dealloc:arr:3:8:1:0", "L1:try_dealloc:node:24:1:0", "L2:dealloc:arr:3:8:8:1"] := by decide +kernel

end MemVerif.Props.C09
