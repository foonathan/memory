import MemVerif.Lemmas.Unwind
/-! Robust monotonicity invariant of `memory_stack` histories (behind `C06_marker_monotone`). -/
namespace MemVerif.Model

/-- robust monotonicity relation between a state and a later state of the same scope level -/
structure Mono (s r : MemStack) : Prop where
  cached : r.arena.isCached = true
  ext : ∃ extra, r.arena.used = extra ++ s.arena.used ∧ (extra = [] → s.cur ≤ r.cur)

theorem Mono.refl {s : MemStack} (h : s.arena.isCached = true) : Mono s s :=
  ⟨h, [], rfl, fun _ => Nat.le_refl _⟩

theorem Mono.trans {s t r : MemStack} (h1 : Mono s t) (h2 : Mono t r) : Mono s r := by
  obtain ⟨e1, hu1, hc1⟩ := h1.ext
  obtain ⟨e2, hu2, hc2⟩ := h2.ext
  refine ⟨h2.cached, e2 ++ e1, by rw [hu2, hu1, List.append_assoc], fun h => ?_⟩
  obtain ⟨rfl, rfl⟩ := List.append_eq_nil_iff.mp h
  exact Nat.le_trans (hc1 rfl) (hc2 rfl)

theorem mono_alloc (cfg : Cfg) (s : MemStack) (hc : s.arena.isCached = true) (size align : Nat) (env : List (Option Nat)) :
    Mono s (s.allocate cfg size align env).1 := by
  obtain ⟨fs, h, -⟩ := MemStack.allocate_shape cfg s size align env
  generalize s.allocate cfg size align env = res at h
  have henter : ∀ {a b ev r c}, s.arena.allocateBlock env = .ok a b ev r → Mono s { s with arena := a, cur := c } :=
    fun ha => by
      obtain ⟨h1, blk, h2, _⟩ := Arena.allocateBlock_ok ha
      exact ⟨h1.trans hc, [blk], h2, nofun⟩
  cases h with
  | crash => exact Mono.refl hc
  | bump => exact ⟨hc, [], rfl, fun _ => le_bumpCur ..⟩
  | envMissing => exact Mono.refl hc
  | fail => exact Mono.refl hc
  | badSize _ ha => exact henter ha
  | grow _ ha => exact henter ha

theorem mono_try (cfg : Cfg) (s : MemStack) (hc : s.arena.isCached = true) (size align : Nat) :
    Mono s (s.tryAllocate cfg size align).1 := by
  rw [tryAllocate_core]
  exact ⟨hc, [], rfl, fun _ => (tryCore_spec cfg s.cur s.arena.used size align).1⟩

theorem mono_unwind (cfg : Cfg) (t r : MemStack) (m : Marker) (hm : t.top = some m) (h : Mono t r) :
    Mono t (r.unwind cfg m).1 := by
  obtain ⟨extra, hu, hcur⟩ := h.ext
  obtain ⟨hne, hidx, htop, hend⟩ := top_eq hm
  show Mono t (r.unwindEv cfg m).1
  rw [unwindEv_core cfg h.cached]
  obtain ⟨hK, hsp⟩ := unwindCore_spec cfg r.cur r.arena.used m
  generalize unwindCore cfg r.cur r.arena.used m = res at hK hsp
  obtain ⟨c', k, out⟩ := res
  dsimp only [unwound] at hK hsp ⊢
  rw [hu] at hK hsp ⊢
  -- the marker's block lies `|extra|` below the top, so at most the blocks of `extra` are moved
  have hk : k ≤ extra.length := by
    rw [List.length_append_sub_one hne, ← hidx] at hK
    exact Nat.le_trans hK (Nat.le_trans (sub64_le (Nat.le_add_right _ _)) (Nat.le_of_eq (Nat.add_sub_cancel_left ..)))
  rw [List.drop_append_of_le_length hk]
  refine ⟨h.cached, _, rfl, fun h0 => ?_⟩
  rcases hsp with ⟨_, rfl⟩ | ⟨rfl, hk0 | hb⟩
  · exact Nat.le_of_eq htop.symm
  · subst hk0; exact hcur h0
  · rw [List.drop_append_of_le_length hk, h0] at hb; exact absurd hend hb

mutual
theorem mono_op (cfg : Cfg) (e : EnvS) : ∀ (op : SOp) (s : MemStack) (k : Nat), s.arena.isCached = true →
    Mono s (runOp cfg e s k op).st
  | .alloc size align, s, k, hc => by
    simp only [runOp]
    exact mono_alloc cfg s hc size align [e k]
  | .tryAlloc size align, s, k, hc => by
    simp only [runOp]
    exact mono_try cfg s hc size align
  | .scope ops, s, k, hc => by
    simp only [runOp]
    split
    · exact Mono.refl hc
    · rename_i m hm
      exact mono_unwind cfg s _ m hm (mono_ops cfg e ops s k hc)
theorem mono_ops (cfg : Cfg) (e : EnvS) : ∀ (ops : List SOp) (s : MemStack) (k : Nat), s.arena.isCached = true →
    Mono s (runOps cfg e s k ops).st
  | [], s, k, hc => by
    simp only [runOps]
    exact Mono.refl hc
  | op :: ops, s, k, hc => by
    simp only [runOps]
    have h1 := mono_op cfg e op s k hc
    exact h1.trans (mono_ops cfg e ops _ _ h1.cached)
end

end MemVerif.Model
