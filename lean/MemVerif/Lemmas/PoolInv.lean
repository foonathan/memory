import MemVerif.Lemmas.AnyList
import MemVerif.Lemmas.PoolFrame
/-!
Every `memory_pool` operation and every history preserves the invariant, for all three free lists: `CellInv` over the
list's cells, the list's own `AnyList.SInv`, and conservation (free and live cells are exactly the cells the blocks were
cut into). It is proved once, as `PInvR` (conservation relative to a reference point), along the shapes of
`Lemmas/PoolFrame`: a block pushed (`PInvR.push`), a request (`Pool.Served.invR`), a release (`Pool.release_invR`);
`PInvG` and the `PInv` of `Props/C01` are its two instances. Beyond disjoint, well formed blocks the environment owes one
thing: the pool object, which holds the proxy words of the ordered and the small list, lies in no block the pool obtains
(`ObjOut`).
-/
namespace MemVerif.Model

/-- the list object's proxy words `[B, B + 16)` lie outside every block in use -/
def ObjOut (o : AnyList.ListObj) (used : List Blk) : Prop :=
  match o.addr with
  | none => True
  | some B => ∀ b ∈ used, B + 16 ≤ b.base ∨ b.base + b.size ≤ B

instance (o : AnyList.ListObj) (used : List Blk) : Decidable (ObjOut o used) := by
  unfold ObjOut; cases o.addr <;> exact inferInstance

theorem ObjOut.suffix {o : AnyList.ListObj} {u u' : List Blk} (h : ObjOut o u') (hs : u <:+ u') : ObjOut o u := by
  unfold ObjOut at h ⊢
  cases ha : o.addr with
  | none => trivial
  | some B => rw [ha] at h; exact fun b hb => h b (hs.subset hb)

/-- the environment's obligations on a used-block list (EnvOk) -/
def EnvOkG (o : AnyList.ListObj) (used : List Blk) : Prop := BlocksOk used ∧ ObjOut o used

instance (o : AnyList.ListObj) (used : List Blk) : Decidable (EnvOkG o used) := by unfold EnvOkG; exact inferInstance

theorem EnvOkG.suffix {o : AnyList.ListObj} {u u' : List Blk} (h : EnvOkG o u') (hs : u <:+ u') : EnvOkG o u :=
  ⟨h.1.suffix hs, h.2.suffix hs⟩

/-- the cells the blocks in use were cut into by the pool's list -/
def cellsOfBlocks (l : AnyList) (used : List Blk) : List Nat := used.flatMap l.blockCells

@[simp] theorem cellsOfBlocks_cons (l : AnyList) (b : Blk) (used : List Blk) :
    cellsOfBlocks l (b :: used) = l.blockCells b ++ cellsOfBlocks l used := by
  simp [cellsOfBlocks]

theorem cellsOfBlocks_same {l l' : AnyList} (h : AnyList.Same l l') (used : List Blk) :
    cellsOfBlocks l' used = cellsOfBlocks l used := by
  unfold cellsOfBlocks
  congr 1
  funext b
  exact h.blk b

theorem cellsOfBlocks_intrusive {l : AnyList} (h : l.Intr) (used : List Blk) :
    cellsOfBlocks l used = used.flatMap fun b => blockNodes b.usable.base l.nodeSize (b.usable.size / l.nodeSize) :=
  congrArg (List.flatMap · used) (funext (AnyList.blockCells_intrusive h))

theorem liveCells_length_cons (ns : Nat) (a b : Nat) (live : List (Nat × Nat)) :
    (liveCells ns ((a, b) :: live)).length = cellsOf ns b + (liveCells ns live).length := by
  simp [liveCells_cons]

theorem liveCells_length_erase {ns : Nat} {live : List (Nat × Nat)} {i a b : Nat} (h : live[i]? = some (a, b)) :
    (liveCells ns live).length = cellsOf ns b + (liveCells ns (live.eraseIdx i)).length := by
  have := (liveCells_erase (ns := ns) h).length_eq
  simpa using this

/-- **The C01 invariant of a pool (any of the three list types)**: node size `ns`, list object `o`. -/
structure PInvG (ns : Nat) (o : AnyList.ListObj) (p : Pool) (live : List (Nat × Nat)) : Prop where
  nsEq : p.list.nodeSize = ns
  objEq : p.list.obj = o
  sinv : p.list.SInv p.arena.used live
  cell : CellInv ns p.list.cells p.arena.used live
  /-- **conservation**: free cells + cells of live allocations are, as a multiset, exactly the cells the blocks in use
  were cut into (every cell of every block is either free or part of exactly one live allocation) -/
  conserve : (p.list.cells ++ liveCells ns live).Perm (cellsOfBlocks p.list p.arena.used)

theorem PInvG.congr_list {ns : Nat} {o o' : AnyList.ListObj} {p : Pool} {live : List (Nat × Nat)} (h : PInvG ns o p live)
    {l : AnyList} (hns : l.nodeSize = p.list.nodeSize) (hobj : l.obj = o') (hc : l.cells = p.list.cells)
    (hb : l.blockCells = p.list.blockCells) (hs : l.SInv p.arena.used live) : PInvG ns o' { p with list := l } live :=
  ⟨hns.trans h.nsEq, hobj, hs, hc ▸ h.cell, by
    show (l.cells ++ liveCells ns live).Perm (p.arena.used.flatMap l.blockCells)
    rw [hc, hb]; exact h.conserve⟩

/-- `PInvG` with **conservation relative to a reference point** at which free and live cells together were `T0` and the
cells of the blocks in use `B0`: both have grown by the same cells since. Every state that satisfies the other clauses
is its own reference point, which is how `PInv`, which has no conservation clause, is an instance (`PInv_iff`). -/
structure PInvR (T0 B0 : List Nat) (ns : Nat) (o : AnyList.ListObj) (p : Pool) (live : List (Nat × Nat)) : Prop where
  nsEq : p.list.nodeSize = ns
  objEq : p.list.obj = o
  sinv : p.list.SInv p.arena.used live
  cell : CellInv ns p.list.cells p.arena.used live
  conserve : (p.list.cells ++ liveCells ns live ++ B0).Perm (cellsOfBlocks p.list p.arena.used ++ T0)

theorem PInvR_nil {ns : Nat} {o : AnyList.ListObj} {p : Pool} {live : List (Nat × Nat)} :
    PInvR [] [] ns o p live ↔ PInvG ns o p live :=
  ⟨fun h => ⟨h.nsEq, h.objEq, h.sinv, h.cell, by simpa using h.conserve⟩,
   fun h => ⟨h.nsEq, h.objEq, h.sinv, h.cell, by simpa using h.conserve⟩⟩

theorem PInv_iff {ns : Nat} {p : Pool} {live : List (Nat × Nat)} :
    PInv ns p live ↔ ∃ T0 B0, PInvR T0 B0 ns .unordered p live := by
  constructor
  · rintro ⟨l, hl, rfl, hI⟩
    exact ⟨_, _, by rw [hl]; rfl, by rw [hl]; rfl, by rw [hl]; exact hI.cap, by rw [hl]; exact hI.toCell,
      List.perm_append_comm⟩
  · rintro ⟨T0, B0, h1, h2, h3, h4, _⟩
    obtain ⟨l, hl⟩ := AnyList.obj_unordered h2
    rw [hl] at h1 h3 h4
    subst h1
    exact ⟨l, hl, rfl, h4.toList h3⟩

variable {T0 B0 : List Nat} {ns : Nat} {o : AnyList.ListObj} {p : Pool} {live : List (Nat × Nat)}

namespace PInvR

/-- the shape of every list operation: no block is acquired, free and live cells together remain the same cells -/
theorem move (h : PInvR T0 B0 ns o p live) {l : AnyList} {live' : List (Nat × Nat)} (hsame : AnyList.Same p.list l)
    (hs : l.SInv p.arena.used live') (hc : CellInv ns l.cells p.arena.used live')
    (hperm : (l.cells ++ liveCells ns live').Perm (p.list.cells ++ liveCells ns live)) :
    PInvR T0 B0 ns o { p with list := l } live' :=
  ⟨hsame.ns.trans h.nsEq, hsame.obj.trans h.objEq, hs, hc, by
    rw [cellsOfBlocks_same hsame]
    exact (hperm.append_right B0).trans h.conserve⟩

theorem take (h : PInvR T0 B0 ns o p live) {l : AnyList} {a bytes : Nat} {A B : List Nat}
    (h1 : p.list.cells = A ++ blockNodes a ns (cellsOf ns bytes) ++ B) (h2 : l.cells = A ++ B)
    (hsame : AnyList.Same p.list l) (hs : l.SInv p.arena.used ((a, bytes) :: live)) :
    PInvR T0 B0 ns o { p with list := l } ((a, bytes) :: live) :=
  h.move hsame hs (h.cell.take h1 h2) (h2 ▸ liveCells_take live h1)

theorem give (h : PInvR T0 B0 ns o p live) {l : AnyList} {i a b : Nat} (hi : live[i]? = some (a, b))
    (hperm : l.cells.Perm (blockNodes a ns (cellsOf ns b) ++ p.list.cells))
    (hsame : AnyList.Same p.list l) (hs : l.SInv p.arena.used (live.eraseIdx i)) :
    PInvR T0 B0 ns o { p with list := l } (live.eraseIdx i) :=
  h.move hsame hs (h.cell.give hi hperm) (liveCells_give hi hperm)

end PInvR

theorem outObj_of_inBlk {o : AnyList.ListObj} {used : List Blk} (ho : ObjOut o used) {b : Blk} (hb : b ∈ used)
    {a len : Nat} (hi : InBlk b a len) : AnyList.OutObj o a len := by
  unfold ObjOut at ho
  unfold AnyList.OutObj
  cases ha : o.addr with
  | none => trivial
  | some B =>
    rw [ha] at ho
    exact (ho b hb).symm.imp (Nat.le_trans hi.2)
      fun h => Nat.le_trans h (Nat.le_trans (Nat.le_add_right _ _) hi.1)

/-- A block `blk` is pushed on the arena and its usable part offered to the list. If `insert` takes it, the pool with the new
list keeps the invariant; if not, the block is too small for a single cell and the pool with the old list keeps it. -/
theorem PInvR.push (cfg : Cfg) (h : PInvR T0 B0 ns o p live) {a : Arena} {blk : Blk} (h1 : a.used = blk :: p.arena.used)
    (hb : EnvOkG o a.used) :
    (∀ l, p.list.insert cfg blk.usable.base blk.usable.size = .ok l →
        PInvR T0 B0 ns o { p with arena := a, list := l } live) ∧
      ((∀ l, p.list.insert cfg blk.usable.base blk.usable.size ≠ .ok l) → PInvR T0 B0 ns o { p with arena := a } live) := by
  -- the arena taken apart, so that its block list is `blk :: p.arena.used` by computation
  obtain ⟨src, isCached, used, cached⟩ := a
  cases h1
  have hns := h.nsEq
  subst hns
  -- the usable part of the new block lies in that block, hence away from every old cell and from the list object
  have hin : InBlk blk blk.usable.base blk.usable.size :=
    (inBlk_iff_usable (hb.1.1 blk List.mem_cons_self)).mpr ⟨Nat.le_refl _, Nat.le_refl _⟩
  have hap : p.list.CellsApart blk.usable.base (blk.usable.size / p.list.nodeSize) := by
    intro y hy
    obtain ⟨c, hc, hy'⟩ := h.cell.freeIn y hy
    have hdiv := Nat.div_mul_le_self blk.usable.size p.list.nodeSize
    exact (hb.1.cons_apart hc hin hy').symm.imp_right (Nat.le_trans (Nat.add_le_add_left hdiv _))
  have hout : AnyList.OutObj p.list.obj blk.usable.base blk.usable.size :=
    h.objEq ▸ outObj_of_inBlk hb.2 List.mem_cons_self hin
  have hspec := AnyList.blockCells_spec p.list blk
  rcases AnyList.insert_block cfg h.sinv hb.1 hap hout with ⟨l, hins, hperm, hsame, hsinv⟩ | ⟨hz, hno⟩
  · refine ⟨fun l' hins' => ?_, fun hno => absurd hins (hno l)⟩
    cases hins.symm.trans hins'
    refine ⟨hsame.ns, hsame.obj.trans h.objEq, hsinv, h.cell.insertCells hb.1 hspec.1 hspec.2 hperm, ?_⟩
    show (l.cells ++ liveCells p.list.nodeSize live ++ B0).Perm (cellsOfBlocks l (blk :: p.arena.used) ++ T0)
    rw [cellsOfBlocks_same hsame, cellsOfBlocks_cons]
    refine ((hperm.append_right _).append_right _).trans ?_
    rw [List.append_assoc, List.append_assoc, List.append_assoc, ← List.append_assoc p.list.cells]
    exact h.conserve.append_left _
  · refine ⟨fun l hins => absurd hins (hno l), fun _ => ⟨rfl, h.objEq, h.sinv.mono fun _ => List.mem_cons_of_mem _,
      h.cell.mono hb.1 fun _ => List.mem_cons_of_mem _, ?_⟩⟩
    show List.Perm _ (cellsOfBlocks p.list (blk :: p.arena.used) ++ T0)
    rw [cellsOfBlocks_cons, hz]
    exact h.conserve

theorem Pool.Grown.invR {cfg : Cfg} {r : PRes Pool} (hg : Pool.Grown cfg p r) (h : PInvR T0 B0 ns o p live)
    (hb : EnvOkG o r.st.arena.used) : PInvR T0 B0 ns o r.st live := by
  cases hg with
  | same _ => exact h
  | pushed h1 hno _ => exact (h.push cfg h1 hb).2 hno
  | inserted h1 hins => exact (h.push cfg h1 hb).1 _ hins

theorem PInvR.alloc (h : PInvR T0 B0 ns o p live)
    {l : AnyList} {a bytes : Nat} (hb : bytes ≤ ns) (ha : p.list.allocate = some (l, a)) :
    PInvR T0 B0 ns o { p with list := l } ((a, bytes) :: live) := by
  obtain ⟨A, B, h1, h2, hsame, hsinv⟩ := AnyList.allocate_spec (bytes := bytes) h.sinv (by rw [h.nsEq]; exact hb) ha
  have hc : cellsOf ns bytes = 1 := if_pos hb
  exact h.take (by rw [hc, blockNodes_one, h1]) h2 hsame hsinv

theorem PInvR.allocBytes (h : PInvR T0 B0 ns o p live)
    {l : AnyList} {a bytes : Nat} (ha : p.list.allocateBytes bytes = some (l, some a)) :
    PInvR T0 B0 ns o { p with list := l } ((a, bytes) :: live) := by
  obtain ⟨A, B, h1, h2, hsame, hsinv⟩ := AnyList.allocateBytes_spec h.sinv (by rw [h.nsEq]; exact h.cell.nsPos) ha
  exact h.take (h.nsEq ▸ h1) h2 hsame hsinv

/-- postcondition of an allocation function: a returned address is entered in the ledger with `bytes` -/
def PostG (ns : Nat) (o : AnyList.ListObj) (live : List (Nat × Nat)) (bytes : Nat) (r : PRes Pool) : Prop :=
  match r.out with
  | .ok a => PInvG ns o r.st ((a, bytes) :: live)
  | _ => PInvG ns o r.st live

theorem PostG.ledger {ns : Nat} {o : AnyList.ListObj} {live : List (Nat × Nat)} {bytes : Nat} {r : PRes Pool}
    (h : PostG ns o live bytes r) :
    PInvG ns o r.st (match r.out with | .ok a => (a, bytes) :: live | _ => live) := by
  unfold PostG at h
  cases hr : r.out <;> simp only [hr] at h ⊢ <;> exact h

/-- **Every request keeps the invariant**, a returned address being entered in the ledger with `bytes`, if
`allocate_block()` keeps it (`hg`) and the one `take` from the list does (`ht`). -/
theorem Pool.Served.invR {g : Pool} {take : AnyList → AnyList → Nat → Prop} {r : PRes Pool} {bytes : Nat}
    (hs : Pool.Served p g take r) (h : PInvR T0 B0 ns o p live) (hg : EnvOkG o g.arena.used → PInvR T0 B0 ns o g live)
    (ht : ∀ {q l a}, PInvR T0 B0 ns o q live → take q.list l a → PInvR T0 B0 ns o { q with list := l } ((a, bytes) :: live))
    (hb : EnvOkG o r.st.arena.used) :
    PInvR T0 B0 ns o r.st (match r.out with | .ok a => (a, bytes) :: live | _ => live) := by
  cases hs with
  | idle hq hne =>
    split
    · rename_i a ha
      exact absurd ha (hne a)
    · rcases hq with rfl | rfl
      · exact h
      · exact hg hb
  | took hq htk =>
    rcases hq with rfl | rfl
    · exact ht h htk
    · exact ht (hg hb) htk

/-- **Release of the `i`-th live allocation** with the parameters it was taken with — `deallocate_array` for more than
a node, `deallocate_node` otherwise: the call `GPool.exec` makes — succeeds and keeps the invariant. -/
theorem Pool.release_invR (cfg : Cfg) (h : PInvR T0 B0 ns o p live) (ho : ObjOut o p.arena.used) {i a b : Nat}
    (hi : live[i]? = some (a, b)) :
    PInvR T0 B0 ns o (if b > ns then p.deallocateBytes cfg a b else p.deallocateNode cfg a).st (live.eraseIdx i) ∧
      (if b > ns then p.deallocateBytes cfg a b else p.deallocateNode cfg a).out = .done := by
  have hns := h.nsEq
  subst hns
  -- what the list's release functions ask of the allocation: apart from the free cells, outside the list object, not null
  have hmem : (a, b) ∈ live := List.mem_of_getElem? hi
  obtain ⟨blk, hblk, hin⟩ := h.cell.liveIn (a, b) hmem
  have hap : p.list.CellsApart a (cellsOf p.list.nodeSize b) := h.cell.live_apart hmem
  have hout : AnyList.OutObj p.list.obj a (cellsOf p.list.nodeSize b * p.list.nodeSize) := by
    rw [h.objEq]
    exact outObj_of_inBlk ho hblk hin
  have ha0 : 0 < a := hin.pos
  by_cases hgt : b > p.list.nodeSize
  · have hc : cellsOf p.list.nodeSize b = ceilNodes b p.list.nodeSize := if_neg (Nat.not_le.mpr hgt)
    rw [hc] at hap hout
    obtain ⟨l', hd, hperm, hsame, hsinv⟩ := AnyList.deallocateBytes_spec cfg h.sinv hi h.cell.nsPos hgt hap hout ha0
    rw [if_pos hgt, Pool.deallocateBytes, hd]
    exact ⟨h.give hi (hc ▸ hperm) hsame hsinv, rfl⟩
  · have hc : cellsOf p.list.nodeSize b = 1 := if_pos (Nat.not_lt.mp hgt)
    rw [hc, Nat.one_mul] at hout
    rw [hc] at hap
    obtain ⟨l', hd, hperm, hsame, hsinv⟩ := AnyList.deallocate_spec cfg h.sinv hi hap hout ha0
    rw [if_neg hgt, Pool.deallocateNode, hd]
    exact ⟨h.give hi (by rw [hc, blockNodes_one]; exact hperm) hsame hsinv, rfl⟩

theorem GPool.step_invR (cfg : Cfg) (e : EnvS) (g : GPool) (k : Nat) (op : POp)
    (h : PInvR T0 B0 ns o g.p g.live) (hf : op.Fits ns) (hb : EnvOkG o (g.step cfg e k op).1.p.arena.used) :
    PInvR T0 B0 ns o (g.step cfg e k op).1.p (g.step cfg e k op).1.live := by
  have hns : g.p.nodeSize = ns := h.nsEq
  subst hns
  have ho : ObjOut o g.p.arena.used := hb.2.suffix (GPool.step_ext cfg e g k op).suffix
  have hblk := (Pool.allocateBlock_grown cfg g.p [e k]).invR h
  cases op with
  | allocNode => exact (Pool.allocateNode_served cfg g.p _).invR h hblk (fun hq => hq.alloc (Nat.le_refl _)) hb
  | tryAllocNode =>
    exact (Pool.tryAllocateNode_served g.p g.p).invR h (fun _ => h) (fun hq => hq.alloc (Nat.le_refl _)) hb
  | allocArray n =>
    have hs := Pool.allocateArray_served cfg g.p n [e k]
    rw [mul64_eq hf] at hs
    exact hs.invR h hblk (fun hq => hq.allocBytes) hb
  | tryAllocArray n =>
    exact (Pool.tryAllocateArrayBytes_served g.p g.p _).invR h (fun _ => h) (fun hq => hq.allocBytes) hb
  | dealloc i =>
    simp only [GPool.step, GPool.exec, GPool.ledger]
    cases hi : g.live[i]? with
    | none =>
      rw [List.eraseIdx_of_length_le (by simpa using hi)]
      exact h
    | some ab => exact (Pool.release_invR cfg h ho hi).1

/-- **Preservation over a history**, the environment's obligation being on the *final* used-block list. -/
theorem GPool.run_invR (cfg : Cfg) (e : EnvS) (ops : List POp) :
    ∀ (g : GPool) (k : Nat), PInvR T0 B0 ns o g.p g.live → (∀ op ∈ ops, op.Fits ns) →
      EnvOkG o (g.run cfg e k ops).1.p.arena.used →
      PInvR T0 B0 ns o (g.run cfg e k ops).1.p (g.run cfg e k ops).1.live := by
  induction ops with
  | nil => intro g k h _ _; exact h
  | cons op ops ih =>
    intro g k h hf hb
    have hstep := GPool.step_invR cfg e g k op h (hf op (by simp))
      (hb.suffix (GPool.run_used_suffix cfg e ops _ _))
    exact ih _ _ hstep (fun o ho => hf o (by simp [ho])) hb

theorem GPool.step_invG (cfg : Cfg) (e : EnvS) (g : GPool) (k : Nat) (op : POp)
    (h : PInvG ns o g.p g.live) (hf : op.Fits ns) (hb : EnvOkG o (g.step cfg e k op).1.p.arena.used) :
    PInvG ns o (g.step cfg e k op).1.p (g.step cfg e k op).1.live :=
  PInvR_nil.mp (GPool.step_invR cfg e g k op (PInvR_nil.mpr h) hf hb)

theorem GPool.run_invG (cfg : Cfg) (e : EnvS) (ops : List POp) (g : GPool) (k : Nat) (h : PInvG ns o g.p g.live)
    (hf : ∀ op ∈ ops, op.Fits ns) (hb : EnvOkG o (g.run cfg e k ops).1.p.arena.used) :
    PInvG ns o (g.run cfg e k ops).1.p (g.run cfg e k ops).1.live :=
  PInvR_nil.mp (GPool.run_invR cfg e ops g k (PInvR_nil.mpr h) hf hb)

theorem GPool.run_inv (cfg : Cfg) (e : EnvS) (ops : List POp) (g : GPool) (k : Nat) (h : PInv ns g.p g.live)
    (hf : ∀ op ∈ ops, op.Fits ns) (hb : BlocksOk (g.run cfg e k ops).1.p.arena.used) :
    PInv ns (g.run cfg e k ops).1.p (g.run cfg e k ops).1.live := by
  obtain ⟨T0, B0, h⟩ := PInv_iff.mp h
  exact PInv_iff.mpr ⟨_, _, GPool.run_invR cfg e ops g k h hf ⟨hb, trivial⟩⟩

theorem PInvG.fresh (src : Src) (l : AnyList) (arrays : Bool) (hS : l.SInv [] []) (hc : l.cells = []) (hpos : 0 < l.nodeSize) :
    PInvG l.nodeSize l.obj { arena := { src := src, isCached := false }, list := l, arrays := arrays } [] :=
  ⟨rfl, rfl, hS,
    { nsPos := hpos
      blocks := ⟨by simp, List.Pairwise.nil⟩
      apart := by simp [hc]
      freeIn := by intro x hx; simp [hc] at hx
      liveIn := by intro x hx; cases hx },
    by simp [hc, cellsOfBlocks]⟩

/-- the constructor establishes the invariant (whatever its outcome) -/
theorem Pool.create_invG (cfg : Cfg) (src : Src) (l : AnyList) (arrays : Bool) (env : List (Option Nat))
    (hS : l.SInv [] []) (hc : l.cells = []) (hpos : 0 < l.nodeSize)
    (hb : EnvOkG l.obj (Pool.create cfg src l arrays env).st.arena.used) :
    PInvG l.nodeSize l.obj (Pool.create cfg src l arrays env).st [] := by
  unfold Pool.create at hb ⊢
  exact PInvR_nil.mp ((Pool.allocateBlock_grown cfg _ env).invR (PInvR_nil.mpr (PInvG.fresh src l arrays hS hc hpos)) hb)

theorem Pool.create_inv (cfg : Cfg) (src : Src) (nodeSize : Nat) (arrays : Bool) (env : List (Option Nat))
    (hb : BlocksOk (Pool.create cfg src (.free (FreeList.new nodeSize)) arrays env).st.arena.used) :
    PInv (intrusiveNodeSize nodeSize) (Pool.create cfg src (.free (FreeList.new nodeSize)) arrays env).st [] :=
  PInv_iff.mpr ⟨[], [], PInvR_nil.mpr
    (Pool.create_invG cfg src (.free (FreeList.new nodeSize)) arrays env rfl rfl (intrusiveNodeSize_pos nodeSize) ⟨hb, trivial⟩)⟩

end MemVerif.Model
