import MemVerif.Model.Stack
import MemVerif.Lemmas.Arith
import MemVerif.Lemmas.Util
/-!
The `size_t` arithmetic and the guards of the bump stacks on `Nat`, and the one bump step
(`fixed_memory_stack::allocate` = guard + `allocate_unchecked`) characterised once: `fixedAllocate_eq` (its shape, every
input), `fits_top_iff` (its guard at a top pointer), `fixedAllocate_eq_some` (when it is served and with what).
-/
namespace MemVerif.Model
open MemVerif.Gen MemVerif.Bits

theorem two_pow_lt48 {k : Nat} (hk : k < 48) : 2 ^ k < 2 ^ 48 := Nat.pow_lt_pow_right (by omega) hk

theorem neededSat_eq (f o s : Nat) :
    neededSat f o s = if (f + o + s + f) % 2 ^ 64 < s then 2 ^ 64 - 1 else (f + o + s + f) % 2 ^ 64 := by
  unfold neededSat
  simp only [add64_mod, Nat.mod_add_mod, two64]

/-- `needed` as `memory_stack::allocate` computes it does not exceed the block: the true sum fits. The sum is below
`2 * 2^64`, so it wraps at most once, and then to less than `f + o + f ≤ size`, which saturates. -/
theorem neededSat_le {f o s bs : Nat} (hf : f ≤ 2 ^ 16) (ho : o < 2 ^ 48) (hs : s < 2 ^ 64) (hbs : bs ≤ 2 ^ 62)
    (h : ¬ neededSat f o s > bs) : f + o + s + f ≤ bs := by
  rw [neededSat_eq] at h
  split at h <;> omega

theorem stackAllocationFits_iff {f o s r : BitVec 64} (h : f.toNat + o.toNat + f.toNat < 2 ^ 64) :
    stackAllocationFits f o s r = true ↔ f.toNat + o.toNat + s.toNat + f.toNat ≤ r.toNat := by
  have e : (f + o + f).toNat = f.toNat + o.toNat + f.toNat := by
    rw [BitVec.toNat_add, BitVec.toNat_add, Nat.mod_add_mod, Nat.mod_eq_of_lt h]
  unfold stackAllocationFits
  rw [Bool.and_eq_true, decide_eq_true_eq, decide_eq_true_eq, Nat.add_right_comm _ s.toNat]
  -- `overhead ≤ r ∧ s ≤ r - overhead`, and under the first the subtraction does not wrap
  constructor
  · rintro ⟨h1, h2⟩
    rw [BitVec.le_def, BitVec.toNat_sub_of_le h1, e] at h2
    rw [BitVec.le_def, e] at h1
    exact (Nat.le_sub_iff_add_le' h1).1 h2
  · intro h'
    have h1 : f + o + f ≤ r := BitVec.le_def.2 (e ▸ Nat.le_trans (Nat.le_add_right _ _) h')
    exact ⟨h1, BitVec.le_def.2 (by rw [BitVec.toNat_sub_of_le h1, e]; exact Nat.le_sub_of_add_le' h')⟩

theorem fits_iff {f o s r : Nat} (hs : s < 2 ^ 64) (hr : r < 2 ^ 64) (hsum : f + o + f < 2 ^ 64) :
    fits f o s r = true ↔ f + o + s + f ≤ r := by
  have hf : f < 2 ^ 64 := Nat.lt_of_le_of_lt (Nat.le_add_left _ _) hsum
  have ho : o < 2 ^ 64 := Nat.lt_of_le_of_lt (Nat.le_trans (Nat.le_add_left _ _) (Nat.le_add_right _ _)) hsum
  unfold fits
  rw [stackAllocationFits_iff (by rw [toNat_ofNat_lt hf, toNat_ofNat_lt ho]; exact hsum),
    toNat_ofNat_lt hf, toNat_ofNat_lt ho, toNat_ofNat_lt hs, toNat_ofNat_lt hr]

/-- `fixed_memory_stack::allocate` is the guard `top != nullptr && fits(..)` followed by `allocate_unchecked`: the form
in which `memory_stack::allocate` and `iteration_allocator::allocate` spell the same step out -/
theorem fixedAllocate_eq (cur end_ size align fence : Nat) :
    fixedAllocate cur end_ size align fence =
      if cur % 2 ^ 64 = 0 ∨ fits fence (alignOff (cur + fence) align) size (sub64 end_ cur) = false then none
      else some (allocUnchecked cur size (alignOff (cur + fence) align) fence) := by
  have hnull : fixedStackNull (BitVec.ofNat 64 cur) = decide (cur % 2 ^ 64 = 0) := by
    rw [fixedStackNull, Bool.eq_iff_iff, beq_iff_eq, decide_eq_true_eq, ← BitVec.toNat_inj, BitVec.toNat_ofNat]
    rfl
  unfold fixedAllocate fixedStackRejects
  rw [hnull]
  change (if decide (cur % 2 ^ 64 = 0) = true then none else
    if (!fits fence (alignOff (cur + fence) align) size (sub64 end_ cur)) = true then none else _) = _
  by_cases h0 : cur % 2 ^ 64 = 0
  · simp only [h0, decide_true, if_true, true_or]
  · cases fits fence (alignOff (cur + fence) align) size (sub64 end_ cur)
    · simp [h0]
    · simp [h0, allocUnchecked]

theorem fixedAllocate_some {cur end_ size align fence p c : Nat}
    (h : fixedAllocate cur end_ size align fence = some (p, c)) :
    p = cur + fence + alignOff (cur + fence) align ∧ c = p + size + fence := by
  rw [fixedAllocate_eq] at h
  split at h
  · cases h
  · cases h
    exact ⟨rfl, rfl⟩

theorem fits_top_iff {cur end_ size k fence : Nat} (hk : k < 64) (hce : cur ≤ end_) (he : end_ < 2 ^ 64)
    (hs : size < 2 ^ 64) (hf : cur + fence + fence + 2 ^ k < 2 ^ 64) :
    fits fence (alignOff (cur + fence) (2 ^ k)) size (sub64 end_ cur) = true ↔
      cur + fence + alignOff (cur + fence) (2 ^ k) + size + fence ≤ end_ := by
  have ho := (alignOff_spec (cur + fence) k hk
    (Nat.lt_of_le_of_lt (Nat.le_trans (Nat.le_add_right _ _) (Nat.le_add_right _ _)) hf)).2
  have hsum : fence + alignOff (cur + fence) (2 ^ k) + fence < 2 ^ 64 := Nat.lt_of_le_of_lt (by omega) hf
  rw [sub64_eq hce he, fits_iff hs (Nat.lt_of_le_of_lt (Nat.sub_le _ _) he) hsum, Nat.le_sub_iff_add_le' hce]
  simp only [← Nat.add_assoc]

/-- **One bump step**, power-of-two alignment: it is served iff the top is not null and the new top does not pass the
end. No hypothesis on `size` beyond being a `size_t`: a huge size is rejected, not wrapped (D20 fix). -/
theorem fixedAllocate_eq_some {cur end_ size k fence : Nat} (hk : k < 64) (hce : cur ≤ end_) (he : end_ < 2 ^ 64)
    (hs : size < 2 ^ 64) (hf : cur + fence + fence + 2 ^ k < 2 ^ 64) (p c : Nat) :
    fixedAllocate cur end_ size (2 ^ k) fence = some (p, c) ↔
      cur ≠ 0 ∧ p = cur + fence + alignOff (cur + fence) (2 ^ k) ∧ c = p + size + fence ∧ c ≤ end_ := by
  simp only [fixedAllocate_eq, Nat.mod_eq_of_lt (Nat.lt_of_le_of_lt hce he), ← Bool.not_eq_true,
    fits_top_iff hk hce he hs hf]
  split
  next h =>
    simp only [reduceCtorEq, false_iff]
    rintro ⟨h0, rfl, rfl, hle⟩
    exact h.elim h0 fun hn => hn hle
  next h =>
    obtain ⟨h0, hle⟩ := not_or.1 h
    rw [allocUnchecked, Option.some.injEq, Prod.mk.injEq]
    constructor
    · rintro ⟨rfl, rfl⟩
      exact ⟨h0, rfl, rfl, Decidable.not_not.1 hle⟩
    · rintro ⟨_, rfl, rfl, _⟩
      exact ⟨rfl, rfl⟩

/-- the standing bounds of the stack proofs give the side conditions of `fixedAllocate_eq_some` / `fits_top_iff` -/
theorem stack_bounds {cur end_ fence k : Nat} (hk : k < 48) (hce : cur ≤ end_) (he : end_ ≤ 2 ^ 62) (hf : fence ≤ 2 ^ 16) :
    k < 64 ∧ end_ < 2 ^ 64 ∧ cur + fence + fence + 2 ^ k < 2 ^ 64 := by
  have := two_pow_lt48 hk
  omega

theorem fixedAllocate_spec {cur end_ size k fence p c : Nat} (hk : k < 64)
    (hce : cur ≤ end_) (he : end_ < 2 ^ 64) (hs : size < 2 ^ 64) (hf : cur + fence + fence + 2 ^ k < 2 ^ 64)
    (h : fixedAllocate cur end_ size (2 ^ k) fence = some (p, c)) :
    p % 2 ^ k = 0 ∧ cur + fence ≤ p ∧ p < cur + fence + 2 ^ k ∧ c = p + size + fence ∧ c ≤ end_ := by
  obtain ⟨_, rfl, hc, hle⟩ := (fixedAllocate_eq_some hk hce he hs hf p c).1 h
  have ho := alignOff_spec (cur + fence) k hk
    (Nat.lt_of_le_of_lt (Nat.le_trans (Nat.le_add_right _ _) (Nat.le_add_right _ _)) hf)
  exact ⟨ho.1, Nat.le_add_right _ _, Nat.add_lt_add_left ho.2 _, hc, hle⟩

/-- for the collections, whose theorems bound the fence by `2^32` only: that still keeps the sum below `2^64` -/
theorem fixedAllocate_in {cur end_ size k fence p cur' : Nat} (hk : k < 48) (hce : cur ≤ end_) (he : end_ ≤ 2 ^ 62)
    (hs : size < 2 ^ 64) (hf : fence ≤ 2 ^ 32) (h : fixedAllocate cur end_ size (2 ^ k) fence = some (p, cur')) :
    2 ^ k ∣ p ∧ cur ≤ p ∧ p + size ≤ cur' ∧ cur' ≤ end_ := by
  have hsum : cur + fence + fence + 2 ^ k < 2 ^ 64 := by
    have h48 := two_pow_lt48 hk
    omega
  obtain ⟨f1, f2, _, f4, f5⟩ :=
    fixedAllocate_spec (Nat.lt_trans hk (by decide)) hce (Nat.lt_of_le_of_lt he (by decide)) hs hsum h
  exact ⟨Nat.dvd_of_mod_eq_zero f1, Nat.le_trans (Nat.le_add_right _ _) f2, by rw [f4]; exact Nat.le_add_right _ _, f5⟩

end MemVerif.Model
