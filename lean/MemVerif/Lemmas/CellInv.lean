import MemVerif.Lemmas.Blocks
/-!
The partition invariant `CellInv` over an arbitrary list of free cells, independent of the list implementation and of the
order of the cells (`CellInv.perm`), and the ways a pool changes it: `take` (a run of free cells becomes a live
allocation), `give` (the cells of a live allocation come back, anywhere in the list), `insertCells` (a new block
contributes cells), `mono` (the used-block list grows); then what it says about byte ranges.
-/
namespace MemVerif.Model

/-- **The partition invariant** over the free cells `cells` (cell size `ns`) of a pool whose arena uses `used`, with
the caller holding `live`. -/
structure CellInv (ns : Nat) (cells : List Nat) (used : List Blk) (live : List (Nat × Nat)) : Prop where
  nsPos : 0 < ns
  blocks : BlocksOk used
  /-- free cells and the cells of live allocations: no two overlap -/
  apart : (cells ++ liveCells ns live).Pairwise (Apart ns)
  /-- every free cell lies in the usable part of a used block -/
  freeIn : ∀ x ∈ cells, ∃ b ∈ used, InBlk b x ns
  /-- every live allocation lies, with all its cells, in the usable part of one used block -/
  liveIn : ∀ ab ∈ live, ∃ b ∈ used, InBlk b ab.1 (cellsOf ns ab.2 * ns)

theorem ListInv.toCell {l : FreeList} {used : List Blk} {live : List (Nat × Nat)} (h : ListInv l used live) :
    CellInv l.ns l.nodes used live :=
  ⟨h.nsPos, h.blocks, h.apart, h.freeIn, h.liveIn⟩

theorem CellInv.toList {l : FreeList} {used : List Blk} {live : List (Nat × Nat)}
    (h : CellInv l.ns l.nodes used live) (hc : l.cap = l.nodes.length) : ListInv l used live :=
  ⟨h.nsPos, hc, h.blocks, h.apart, h.freeIn, h.liveIn⟩

namespace CellInv
variable {ns : Nat} {cells cells' : List Nat} {used used' : List Blk} {live : List (Nat × Nat)}

theorem perm (h : CellInv ns cells used live) (hp : cells'.Perm cells) : CellInv ns cells' used live :=
  { h with
    apart := (List.Perm.pairwise_iff Apart.symm (List.Perm.append_right _ hp)).mpr h.apart
    freeIn := fun x hx => h.freeIn x (hp.subset hx) }

theorem cellIn (h : CellInv ns cells used live) {y : Nat} (hy : y ∈ cells ++ liveCells ns live) :
    ∃ b ∈ used, InBlk b y ns := by
  rcases List.mem_append.mp hy with hy | hy
  · exact h.freeIn y hy
  · obtain ⟨ab, hab, hy⟩ := List.mem_flatMap.mp hy
    obtain ⟨b, hb, hi⟩ := h.liveIn ab hab
    exact ⟨b, hb, hi.cell hy⟩

theorem mono (h : CellInv ns cells used live) (hb : BlocksOk used') (hsub : ∀ b ∈ used, b ∈ used') :
    CellInv ns cells used' live :=
  { h with
    blocks := hb
    freeIn := fun x hx => let ⟨b, hb, hi⟩ := h.freeIn x hx; ⟨b, hsub b hb, hi⟩
    liveIn := fun ab hab => let ⟨b, hb, hi⟩ := h.liveIn ab hab; ⟨b, hsub b hb, hi⟩ }

theorem take (h : CellInv ns cells used live) {A B : List Nat} {f bytes : Nat}
    (hn : cells = A ++ blockNodes f ns (cellsOf ns bytes) ++ B) (hn' : cells' = A ++ B) :
    CellInv ns cells' used ((f, bytes) :: live) := by
  subst hn'
  have hsub : ∀ x ∈ A ++ blockNodes f ns (cellsOf ns bytes) ++ B, ∃ b ∈ used, InBlk b x ns := hn ▸ h.freeIn
  refine ⟨h.nsPos, h.blocks, (List.Perm.pairwise_iff Apart.symm (liveCells_take live hn)).mpr h.apart, ?_, ?_⟩
  · intro x hx
    rcases List.mem_append.mp hx with hx | hx <;> exact hsub x (by simp [hx])
  · intro ab hab
    rcases List.mem_cons.mp hab with rfl | hab
    · exact run_in_block h.blocks (cellsOf_pos ns bytes h.nsPos) fun x hx => hsub x (by simp [hx])
    · exact h.liveIn ab hab

theorem give (h : CellInv ns cells used live) {i a b : Nat} (hi : live[i]? = some (a, b))
    (hn' : cells'.Perm (blockNodes a ns (cellsOf ns b) ++ cells)) :
    CellInv ns cells' used (live.eraseIdx i) := by
  refine ⟨h.nsPos, h.blocks, (List.Perm.pairwise_iff Apart.symm (liveCells_give hi hn')).mpr h.apart, ?_, ?_⟩
  · intro x hx
    rcases List.mem_append.mp (hn'.subset hx) with hx | hx
    · obtain ⟨blk, hblk, hin⟩ := h.liveIn (a, b) (List.mem_of_getElem? hi)
      exact ⟨blk, hblk, hin.cell hx⟩
    · exact h.freeIn x hx
  · intro ab hab
    exact h.liveIn ab ((List.eraseIdx_sublist live i).subset hab)

theorem insertCells (h : CellInv ns cells used live) {b : Blk} (hb : BlocksOk (b :: used)) {N : List Nat}
    (hN : N.Pairwise (Apart ns)) (hin : ∀ x ∈ N, b.usable.base ≤ x ∧ x + ns ≤ b.usable.base + b.usable.size)
    (hn' : cells'.Perm (N ++ cells)) : CellInv ns cells' (b :: used) live := by
  have hinB : ∀ x ∈ N, InBlk b x ns := fun x hx => (inBlk_iff_usable (hb.1 b (by simp))).mpr (hin x hx)
  refine CellInv.perm (cells := N ++ cells) ⟨h.nsPos, hb, ?_, ?_, ?_⟩ hn'
  · rw [List.append_assoc, List.pairwise_append]
    refine ⟨hN, h.apart, ?_⟩
    intro x hx y hy
    obtain ⟨c, hc, hy'⟩ := h.cellIn hy
    exact hb.cons_apart hc (hinB x hx) hy'
  · intro x hx
    rcases List.mem_append.mp hx with hx | hx
    · exact ⟨b, by simp, hinB x hx⟩
    · obtain ⟨c, hc, hi⟩ := h.freeIn x hx
      exact ⟨c, by simp [hc], hi⟩
  · intro ab hab
    obtain ⟨c, hc, hi⟩ := h.liveIn ab hab
    exact ⟨c, by simp [hc], hi⟩

theorem live_disjoint (h : CellInv ns cells used live) :
    live.Pairwise fun r s => r.1 + r.2 ≤ s.1 ∨ s.1 + s.2 ≤ r.1 := by
  have h1 := (List.pairwise_append.mp h.apart).2.1
  refine (List.pairwise_flatMap.mp h1).2.imp ?_
  intro r s hrs
  -- the runs of cells are disjoint, and the bytes handed out fit in them
  exact (apart_runs h.nsPos (cellsOf_pos ns r.2 h.nsPos) (cellsOf_pos ns s.2 h.nsPos) hrs).imp
    (Nat.le_trans (Nat.add_le_add_left (le_cellsOf_mul ns r.2 h.nsPos) _))
    (Nat.le_trans (Nat.add_le_add_left (le_cellsOf_mul ns s.2 h.nsPos) _))

theorem live_inside (h : CellInv ns cells used live) :
    ∀ r ∈ live, ∃ b ∈ used, b.usable.base ≤ r.1 ∧ r.1 + r.2 ≤ b.usable.base + b.usable.size := by
  intro r hr
  obtain ⟨b, hb, hi⟩ := h.liveIn r hr
  have hu := (inBlk_iff_usable (h.blocks.1 b hb)).mp hi
  exact ⟨b, hb, hu.1, Nat.le_trans (Nat.add_le_add_left (le_cellsOf_mul ns r.2 h.nsPos) _) hu.2⟩

theorem live_apart (h : CellInv ns cells used live) {a b : Nat} (hab : (a, b) ∈ live) :
    ∀ x ∈ cells, x + ns ≤ a ∨ a + cellsOf ns b * ns ≤ x := by
  intro x hx
  have h1 := (List.pairwise_append.mp h.apart).2.2 x hx
  exact apart_run h.nsPos (cellsOf_pos ns b h.nsPos) (fun y hy => h1 y (List.mem_flatMap.mpr ⟨(a, b), hab, hy⟩))

theorem frame (h : CellInv ns cells used live) : ∀ x ∈ cells, ∀ r ∈ live, x + ns ≤ r.1 ∨ r.1 + r.2 ≤ x :=
  fun x hx r hr => (h.live_apart (a := r.1) (b := r.2) hr x hx).imp_right
    (Nat.le_trans (Nat.add_le_add_left (le_cellsOf_mul ns r.2 h.nsPos) _))

theorem free_disjoint (h : CellInv ns cells used live) : cells.Pairwise (Apart ns) :=
  (List.pairwise_append.mp h.apart).1

theorem free_inside (h : CellInv ns cells used live) :
    ∀ x ∈ cells, ∃ b ∈ used, b.usable.base ≤ x ∧ x + ns ≤ b.usable.base + b.usable.size := by
  intro x hx
  obtain ⟨b, hb, hi⟩ := h.freeIn x hx
  exact ⟨b, hb, (inBlk_iff_usable (h.blocks.1 b hb)).mp hi⟩

end CellInv

/-- A new block `b` (disjoint from the blocks in use) is pushed and its usable part is cut into cells. -/
theorem ListInv.insert {l l' : FreeList} {used : List Blk} {live : List (Nat × Nat)}
    (h : ListInv l used live) {b : Blk} (hb : BlocksOk (b :: used)) (hins : l.insert b.usable.base b.usable.size = some l') :
    ListInv l' (b :: used) live ∧ l'.ns = l.ns := by
  obtain ⟨_, rfl⟩ := FreeList.insertImpl_eq_some.1 hins
  refine ⟨(h.toCell.insertCells hb (blockNodes_pairwise _ _ _) (fun _ => blockNodes_div_bounds)
    (List.Perm.refl _)).toList ?_, rfl⟩
  rw [List.length_append, blockNodes_length, h.cap, Nat.add_comm]

end MemVerif.Model
