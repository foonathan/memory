import MemVerif.Lemmas.OrdCells
import MemVerif.Lemmas.SmallCells
/-!
One specification of the five list operations a pool uses (`allocate`, `allocate(n)`, `insert`, `deallocate`,
`deallocate(ptr, n)`) for all three free lists, in terms of the free cells in list order (`AnyList.cells`), the list's
own structural invariant (`AnyList.SInv`), the cells a new block is cut into (`AnyList.blockCells`) and the proxy words
of an ordered / small list (`AnyList.obj`: they live inside the pool object, not in a block). For the two intrusive lists
(`AnyList.Intr`; the buckets of a collection) `SInv` does not mention the ledger, and `insert`, `deallocate(ptr, n)` are
also stated for every region and every `n` (`insert_cells`, `insert_region`, `deallocateBytes_intr`).
-/
namespace MemVerif.Model

namespace AnyList

/-- free cells, in list order -/
def cells : AnyList → List Nat
  | .free l => l.nodes
  | .ord l => l.nodes
  | .small l => l.cells

/-- which list implementation a pool uses, with the address of the list object's proxy words (`[B, B + 16)`: the ordered
list's two proxy nodes; of the small list's proxy chunk header, 24 bytes in all, its two link pointers); the unordered
list has none -/
inductive ListObj
  | unordered
  | ordered (B : Nat)
  | small (P : Nat)
deriving Repr, DecidableEq

def ListObj.addr : ListObj → Option Nat
  | .unordered => none
  | .ordered B => some B
  | .small P => some P

def obj : AnyList → ListObj
  | .ord l => .ordered l.B
  | .small l => .small l.P
  | .free _ => .unordered

theorem obj_ordered {l : AnyList} {B : Nat} (h : l.obj = .ordered B) : ∃ ol, l = .ord ol ∧ ol.B = B := by
  cases l with
  | ord ol => cases h; exact ⟨ol, rfl, rfl⟩
  | free _ => cases h
  | small _ => cases h

theorem obj_small {l : AnyList} {P : Nat} (h : l.obj = .small P) : ∃ sl, l = .small sl ∧ sl.P = P := by
  cases l with
  | small sl => cases h; exact ⟨sl, rfl, rfl⟩
  | free _ => cases h
  | ord _ => cases h

theorem obj_unordered {l : AnyList} (h : l.obj = .unordered) : ∃ fl, l = .free fl := by
  cases l with
  | free fl => exact ⟨fl, rfl⟩
  | small _ => cases h
  | ord _ => cases h

end AnyList

/-- an intrusive list (`node_pool`, `array_pool`) -/
def AnyList.Intr (l : AnyList) : Prop := ∀ P, l.obj ≠ .small P

namespace AnyList

/-- structural invariant of the list itself, inside a pool that uses `used`, with the caller holding `live` -/
def SInv (used : List Blk) (live : List (Nat × Nat)) : AnyList → Prop
  | .free l => l.cap = l.nodes.length
  | .ord l => l.Inv
  | .small l => SmallOk l used live

theorem SInv.mono {l : AnyList} {used used' : List Blk} {live : List (Nat × Nat)} (h : l.SInv used live)
    (hsub : ∀ b ∈ used, b ∈ used') : l.SInv used' live := by
  cases l with
  | free fl => exact h
  | ord ol => exact h
  | small sl => exact SmallOk.mono h hsub

theorem SInv.irrel {l : AnyList} {used : List Blk} {L1 : List (Nat × Nat)} (h : l.SInv used L1) (hint : l.Intr)
    (L2 : List (Nat × Nat)) : l.SInv used L2 := by
  cases l with
  | free fl => exact h
  | ord ol => exact h
  | small sl => exact absurd rfl (hint sl.P)

/-- the cells a new block is cut into by `insert` -/
def blockCells (l : AnyList) (b : Blk) : List Nat :=
  match l with
  | .small sl => smallBlockCells sl.ns b
  | .free fl => blockNodes b.usable.base fl.ns (b.usable.size / fl.ns)
  | .ord ol => blockNodes b.usable.base ol.ns (b.usable.size / ol.ns)

/-- a byte range lies outside the list object's proxy words -/
def OutObj (o : ListObj) (a len : Nat) : Prop :=
  match o.addr with
  | none => True
  | some B => a + len ≤ B ∨ B + 16 ≤ a

theorem OutObj.ord {l : OrdList} (hI : l.Inv) {m k : Nat} (h : OutObj (.ordered l.B) m (k * l.ns)) : RunOut l m k := by
  have := hI.proxies
  unfold OutObj ListObj.addr at h
  unfold RunOut
  omega

def CellsApart (l : AnyList) (m k : Nat) : Prop := ∀ y ∈ l.cells, y + l.nodeSize ≤ m ∨ m + k * l.nodeSize ≤ y

/-- what every operation keeps -/
structure Same (l l' : AnyList) : Prop where
  ns : l'.nodeSize = l.nodeSize
  obj : l'.obj = l.obj
  blk : ∀ b, l'.blockCells b = l.blockCells b

theorem Same.refl (l : AnyList) : Same l l := ⟨rfl, rfl, fun _ => rfl⟩

theorem Same.intr {l l' : AnyList} (h : Same l l') (hi : l.Intr) : l'.Intr := fun P => by
  rw [h.obj]
  exact hi P

theorem blockCells_eq (l : AnyList) (b : Blk) :
    l.blockCells b = match l.obj with
      | .small _ => smallBlockCells l.nodeSize b
      | _ => blockNodes b.usable.base l.nodeSize (b.usable.size / l.nodeSize) := by
  cases l <;> rfl

theorem blockCells_intrusive {l : AnyList} (hint : l.Intr) (b : Blk) :
    l.blockCells b = blockNodes b.usable.base l.nodeSize (b.usable.size / l.nodeSize) := by
  cases l with
  | small sl => exact absurd rfl (hint sl.P)
  | free _ => rfl
  | ord _ => rfl

theorem Same.of_ns_obj {l l' : AnyList} (hns : l'.nodeSize = l.nodeSize) (hobj : l'.obj = l.obj) : Same l l' :=
  ⟨hns, hobj, fun b => by rw [blockCells_eq, blockCells_eq, hns, hobj]⟩

theorem SInv.capacity {l : AnyList} {used : List Blk} {live : List (Nat × Nat)} (h : l.SInv used live) :
    l.capacity = l.cells.length := by
  cases l with
  | free fl => exact h
  | ord ol => exact (show ol.Inv from h).cap
  | small sl =>
    have hS : SmallOk sl used live := h
    show sl.cap = (sl.chunks.flatMap (Chunk.freeCells sl.ns)).length
    rw [hS.invS.1, List.length_flatMap]
    congr 1
    apply List.map_congr_left
    intro c hc
    rw [(hS.invS.2 c hc).1, Chunk.freeCells, List.length_map]

theorem blockCells_spec (l : AnyList) (b : Blk) :
    (l.blockCells b).Pairwise (Apart l.nodeSize) ∧
      ∀ x ∈ l.blockCells b, b.usable.base ≤ x ∧ x + l.nodeSize ≤ b.usable.base + b.usable.size := by
  cases l with
  | free fl => exact ⟨blockNodes_pairwise _ _ _, fun _ => blockNodes_div_bounds⟩
  | ord ol => exact ⟨blockNodes_pairwise _ _ _, fun _ => blockNodes_div_bounds⟩
  | small sl => exact smallBlockCells_spec sl.ns b

theorem allocate_spec {l l' : AnyList} {used : List Blk} {live : List (Nat × Nat)} {x bytes : Nat}
    (hS : l.SInv used live) (hb : bytes ≤ l.nodeSize) (h : l.allocate = some (l', x)) :
    ∃ A B, l.cells = A ++ [x] ++ B ∧ l'.cells = A ++ B ∧ Same l l' ∧ l'.SInv used ((x, bytes) :: live) := by
  cases l with
  | free fl =>
    obtain ⟨⟨fl', y⟩, hal, he⟩ := Option.map_eq_some_iff.mp h
    cases he
    obtain ⟨zs, hn, rfl⟩ := FreeList.allocate_shape hal
    exact ⟨[], zs, hn, rfl, ⟨rfl, rfl, fun _ => rfl⟩, by simp only [SInv] at hS ⊢; rw [hS, hn]; rfl⟩
  | ord ol =>
    obtain ⟨⟨ol', y⟩, hal, he⟩ := Option.map_eq_some_iff.mp h
    cases he
    obtain ⟨xs, h1, h2, h3, h4, h5, _⟩ := OrdList.allocate_run ol ol' hS x hal
    exact ⟨[], xs, h1, h2, .of_ns_obj h4 (by simp [obj, h5]), h3⟩
  | small sl =>
    obtain ⟨⟨sl', y⟩, hal, he⟩ := Option.map_eq_some_iff.mp h
    cases he
    obtain ⟨A, B, h1, h2, h3, h4, h5⟩ := SmallList.allocate_spec (bytes := bytes) hS hb hal
    exact ⟨A, B, h1, h2, .of_ns_obj h3 (by simp [obj, h4]), h5⟩

theorem allocateBytes_le {l l' : AnyList} {n x : Nat} (hle : n ≤ l.nodeSize) (h : l.allocateBytes n = some (l', some x)) :
    l.allocate = some (l', x) := by
  cases l with
  | free fl =>
    rw [allocateBytes, FreeList.allocateBytes, if_pos (show n ≤ fl.ns from hle), Option.map_map] at h
    obtain ⟨⟨fl', y⟩, hal, he⟩ := Option.map_eq_some_iff.mp h
    cases he
    exact Option.map_eq_some_iff.mpr ⟨_, hal, rfl⟩
  | ord ol =>
    rw [allocateBytes, OrdList.allocateBytes, if_pos (show n ≤ ol.ns from hle), Option.map_map] at h
    obtain ⟨⟨ol', y⟩, hal, he⟩ := Option.map_eq_some_iff.mp h
    cases he
    exact Option.map_eq_some_iff.mpr ⟨_, hal, rfl⟩
  | small sl => cases h

theorem allocateBytes_spec {l l' : AnyList} {used : List Blk} {live : List (Nat × Nat)} {x n : Nat}
    (hS : l.SInv used live) (hpos : 0 < l.nodeSize) (h : l.allocateBytes n = some (l', some x)) :
    ∃ A B, l.cells = A ++ blockNodes x l.nodeSize (cellsOf l.nodeSize n) ++ B ∧ l'.cells = A ++ B ∧ Same l l' ∧
      l'.SInv used ((x, n) :: live) := by
  by_cases hle : n ≤ l.nodeSize
  · -- node-sized: same as `allocate()`
    obtain ⟨A, B, h1, h2, h3, h4⟩ := allocate_spec (bytes := n) hS hle (allocateBytes_le hle h)
    exact ⟨A, B, by rw [cellsOf, if_pos hle, blockNodes_one, h1], h2, h3, h4⟩
  · have hgt : l.nodeSize < n := by omega
    rw [cellsOf, if_neg hle]
    cases l with
    | free fl =>
      obtain ⟨⟨fl', y⟩, hal, he⟩ := Option.map_eq_some_iff.mp h
      cases he
      rcases FreeList.allocateBytes_array fl fl' n (some x) hgt hal with ⟨_, _, hr⟩ | ⟨start, len, hs, rfl, hx⟩
      · cases hr
      · obtain ⟨A, f, B, hn, _, hL, _, hA, hB, hf⟩ := searchArray_split hpos hgt hs
        rw [hf] at hx
        cases hx
        refine ⟨A, B, hL ▸ hn, by simp only [cells]; rw [hA, hB], ⟨rfl, rfl, fun _ => rfl⟩, ?_⟩
        simp only [SInv] at hS ⊢
        rw [hS, hA, hB, hn]
        simp only [List.length_append, blockNodes_length]
        rw [Nat.add_right_comm, Nat.add_sub_cancel]
    | ord ol =>
      obtain ⟨⟨ol', y⟩, hal, he⟩ := Option.map_eq_some_iff.mp h
      cases he
      obtain ⟨A, B, h1, h2, h3, h4, h5, _⟩ := OrdList.allocateBytes_run ol ol' hS n x hgt hal
      exact ⟨A, B, h1, h2, .of_ns_obj h4 (by simp [obj, h5]), h3⟩
    | small sl => cases h

theorem insert_run (cfg : Cfg) {l : AnyList} {used : List Blk} {live : List (Nat × Nat)} (hint : l.Intr)
    (hS : l.SInv used live) {mem size : Nat} (hk : 0 < size / l.nodeSize)
    (hap : l.CellsApart mem (size / l.nodeSize)) (hout : OutObj l.obj mem size) (hm0 : 0 < mem) :
    ∃ l', l.insert cfg mem size = .ok l' ∧ l'.cells.Perm (blockNodes mem l.nodeSize (size / l.nodeSize) ++ l.cells) ∧
      Same l l' ∧ l'.SInv used live := by
  cases l with
  | small sl => exact absurd rfl (hint sl.P)
  | free fl =>
    refine ⟨.free { fl with nodes := blockNodes mem fl.ns (size / fl.ns) ++ fl.nodes, cap := fl.cap + size / fl.ns }, ?_,
      List.Perm.refl _, ⟨rfl, rfl, fun _ => rfl⟩, ?_⟩
    · rw [insert, FreeList.insert, FreeList.insertImpl_eq_some.2 ⟨Nat.ne_of_gt hk, rfl⟩]
    · show fl.cap + size / fl.ns = (blockNodes mem fl.ns (size / fl.ns) ++ fl.nodes).length
      rw [List.length_append, blockNodes_length, show fl.cap = fl.nodes.length from hS, Nat.add_comm]
  | ord ol =>
    have hI : ol.Inv := hS
    have hout' : RunOut ol mem (size / ol.ns) := by
      apply OutObj.ord hI
      have := Nat.div_mul_le_self size ol.ns
      simp only [obj, OutObj, ListObj.addr] at hout ⊢
      omega
    obtain ⟨l1, h1, h2, h3, h4, _, h6⟩ := OrdList.insert_run cfg ol hI mem size hk hap hout' hm0
    exact ⟨.ord l1, by simp [insert, h1], h6, .of_ns_obj h3 (by simp [obj, h4]), h2⟩

theorem insert_cells (cfg : Cfg) {l l' : AnyList} (hi : l.Intr) {m s : Nat} (h : l.insert cfg m s = .ok l') :
    l'.cells.Perm (blockNodes m l.nodeSize (s / l.nodeSize) ++ l.cells) ∧ Same l l' ∧ 0 < s / l.nodeSize := by
  cases l with
  | small sl => exact absurd rfl (hi sl.P)
  | free fl =>
    cases hins : fl.insert m s with
    | none => simp [insert, hins] at h
    | some fl' =>
      simp only [insert, hins, ListRes.ok.injEq] at h
      subst h
      obtain ⟨hk, rfl⟩ := FreeList.insertImpl_eq_some.1 hins
      exact ⟨List.Perm.refl _, ⟨rfl, rfl, fun _ => rfl⟩, Nat.pos_of_ne_zero hk⟩
  | ord ol =>
    cases hins : ol.insert cfg m s with
    | ok ol' =>
      simp only [insert, hins, ListRes.ok.injEq] at h
      subst h
      obtain ⟨hk, hns, hB, i, hn⟩ := OrdList.insert_ok hins
      refine ⟨?_, .of_ns_obj hns (congrArg ListObj.ordered hB), hk⟩
      show ol'.nodes.Perm _
      rw [hn]
      exact spliceAt_perm ol i _
    | handler k => simp [insert, hins] at h
    | crash => simp [insert, hins] at h

theorem insert_region (cfg : Cfg) {l l' : AnyList} {used : List Blk} {live : List (Nat × Nat)} (hint : l.Intr)
    (hS : l.SInv used live) {mem size : Nat} (hap : l.CellsApart mem (size / l.nodeSize)) (hout : OutObj l.obj mem size)
    (hm0 : 0 < mem) (h : l.insert cfg mem size = .ok l') : l'.SInv used live := by
  obtain ⟨l1, h1, _, _, hS'⟩ := insert_run cfg hint hS (insert_cells cfg hint h).2.2 hap hout hm0
  cases h1.symm.trans h
  exact hS'

/-- **`insert` of the usable part of a new block** `blk` (disjoint from the blocks in use, list object outside it):
either it succeeds and adds exactly `blockCells blk`, or the block is too small for a single cell
(`blockCells blk = []`; the code then divides the block into zero nodes: undefined behaviour). -/
theorem insert_block (cfg : Cfg) {l : AnyList} {used : List Blk} {live : List (Nat × Nat)} {blk : Blk}
    (hS : l.SInv used live) (hbk : BlocksOk (blk :: used))
    (hap : l.CellsApart blk.usable.base (blk.usable.size / l.nodeSize))
    (hout : OutObj l.obj blk.usable.base blk.usable.size) :
    (∃ l', l.insert cfg blk.usable.base blk.usable.size = .ok l' ∧ l'.cells.Perm (l.blockCells blk ++ l.cells) ∧
        Same l l' ∧ l'.SInv (blk :: used) live) ∨
      (l.blockCells blk = [] ∧ ∀ l', l.insert cfg blk.usable.base blk.usable.size ≠ .ok l') := by
  by_cases hint : l.Intr
  · have hw := hbk.1 blk List.mem_cons_self
    have hm0 : 0 < blk.usable.base := Nat.lt_of_lt_of_le hw.1 (Nat.le_add_right _ _)
    rw [blockCells_intrusive hint]
    rcases Nat.eq_zero_or_pos (blk.usable.size / l.nodeSize) with hk | hk
    · exact .inr ⟨by rw [hk]; rfl, fun l' h => Nat.ne_of_gt (insert_cells cfg hint h).2.2 hk⟩
    · exact .inl (insert_run cfg hint (hS.mono fun _ => List.mem_cons_of_mem _) hk hap hout hm0)
  · obtain ⟨P, hP⟩ := Classical.not_forall.mp hint
    obtain ⟨sl, rfl, _⟩ := obj_small (Classical.not_not.mp hP)
    have hobj : blk.usable.base + blk.usable.size ≤ sl.P ∨ sl.P < blk.usable.base := by
      simp only [obj, OutObj, ListObj.addr] at hout
      omega
    cases hins : sl.insert blk.usable.base blk.usable.size with
    | none =>
      right
      refine ⟨?_, by intro l' h; simp [insert, hins] at h⟩
      rw [SmallList.insert_eq] at hins
      split at hins
      · rename_i he
        show (smallInsertChunks sl.ns blk.usable.base blk.usable.size).1.flatMap _ = []
        rw [List.isEmpty_iff.mp he]
        rfl
      · cases hins
    | some sl' =>
      left
      obtain ⟨h1, h2, h3, h4⟩ := SmallList.insert_spec hS hbk hobj hins
      exact ⟨.small sl', by simp [insert, hins], h1, .of_ns_obj h2 (by simp [obj, h3]), h4⟩

theorem deallocate_spec (cfg : Cfg) {l : AnyList} {used : List Blk} {live : List (Nat × Nat)} {i p b : Nat}
    (hS : l.SInv used live) (hi : live[i]? = some (p, b)) (hap : l.CellsApart p 1)
    (hout : OutObj l.obj p l.nodeSize) (hp0 : 0 < p) :
    ∃ l', l.deallocate cfg p = .ok l' ∧ l'.cells.Perm (p :: l.cells) ∧ Same l l' ∧ l'.SInv used (live.eraseIdx i) := by
  cases l with
  | free fl =>
    refine ⟨.free (fl.deallocate p), rfl, List.Perm.refl _, ⟨rfl, rfl, fun _ => rfl⟩, ?_⟩
    simp only [SInv] at hS ⊢
    simp [FreeList.deallocate, hS]
  | ord ol =>
    have hout' : RunOut ol p 1 := OutObj.ord hS (by simpa [obj, nodeSize] using hout)
    obtain ⟨l', h1, h2, h3, h4, _, h6⟩ := OrdList.deallocate_run cfg ol hS p hap hout' hp0
    exact ⟨.ord l', by simp [deallocate, h1], h6, .of_ns_obj h3 (by simp [obj, h4]), h2⟩
  | small sl =>
    have hap' : ∀ y ∈ sl.cells, y + sl.ns ≤ p ∨ p + sl.ns ≤ y := by
      intro y hy
      have := hap y hy
      simpa [nodeSize] using this
    obtain ⟨l', h1, h2, h3, h4, h5⟩ := SmallList.deallocate_spec cfg hS hi hap'
    exact ⟨.small l', by simp [deallocate, h1], h2, .of_ns_obj h3 (by simp [obj, h4]), h5⟩

theorem deallocateBytes_spec (cfg : Cfg) {l : AnyList} {used : List Blk} {live : List (Nat × Nat)} {i p n : Nat}
    (hS : l.SInv used live) (hi : live[i]? = some (p, n)) (hpos : 0 < l.nodeSize)
    (hn : l.nodeSize < n) (hap : l.CellsApart p (ceilNodes n l.nodeSize))
    (hout : OutObj l.obj p (ceilNodes n l.nodeSize * l.nodeSize)) (hp0 : 0 < p) :
    ∃ l', l.deallocateBytes cfg p n = .ok l' ∧
      l'.cells.Perm (blockNodes p l.nodeSize (ceilNodes n l.nodeSize) ++ l.cells) ∧ Same l l' ∧
      l'.SInv used (live.eraseIdx i) := by
  cases l with
  | free fl =>
    -- the unordered list's `deallocate(ptr, n)` is `insert` of the `ceilNodes n ns` cells
    have hk : ceilNodes n fl.ns * fl.ns / fl.ns = ceilNodes n fl.ns := Nat.mul_div_cancel _ hpos
    have h := insert_run cfg (l := .free fl) (used := used) (live := live.eraseIdx i) (fun _ => nofun) hS (mem := p)
      (size := ceilNodes n fl.ns * fl.ns)
    simp only [nodeSize, hk] at h hap hn hpos ⊢
    rw [show (AnyList.free fl).deallocateBytes cfg p n = (AnyList.free fl).insert cfg p (ceilNodes n fl.ns * fl.ns) by
      simp only [deallocateBytes, insert, FreeList.deallocateBytes, FreeList.insert, if_neg (Nat.not_le.mpr hn)]]
    exact h (ceilNodes_pos hpos (Nat.lt_trans hpos hn)) hap trivial hp0
  | ord ol =>
    simp only [nodeSize] at hn hpos hap hout
    have hout' : RunOut ol p (ceilNodes n ol.ns) := OutObj.ord hS (by simpa [obj] using hout)
    obtain ⟨l', h1, h2, h3, h4, _, h6⟩ := OrdList.deallocateBytes_run cfg ol hS p n hn hap hout' hp0
    exact ⟨.ord l', by simp [deallocateBytes, h1], h6, .of_ns_obj h3 (by simp [obj, h4]), h2⟩
  | small sl =>
    -- the small list never hands out arrays: every live entry is one node
    exact absurd (hS.liveGrid (p, n) (List.mem_of_getElem? hi)).1 (Nat.not_le.mpr hn)

theorem deallocateBytes_node (cfg : Cfg) {l : AnyList} (hint : l.Intr) {p n : Nat} (hn : n ≤ l.nodeSize) :
    l.deallocateBytes cfg p n = l.deallocate cfg p := by
  cases l with
  | small sl => exact absurd rfl (hint sl.P)
  | free fl =>
    simp only [nodeSize] at hn
    simp [deallocateBytes, deallocate, FreeList.deallocateBytes, hn]
  | ord ol =>
    simp only [nodeSize] at hn
    simp [deallocateBytes, deallocate, OrdList.deallocateBytes, hn]

theorem deallocateBytes_intr (cfg : Cfg) {l : AnyList} {used : List Blk} (hint : l.Intr) (hS : l.SInv used [])
    (hpos : 0 < l.nodeSize) {p n : Nat} (hap : l.CellsApart p (cellsOf l.nodeSize n))
    (hout : OutObj l.obj p (cellsOf l.nodeSize n * l.nodeSize)) (hp0 : 0 < p) :
    ∃ l', l.deallocateBytes cfg p n = .ok l' ∧ l'.cells.Perm (blockNodes p l.nodeSize (cellsOf l.nodeSize n) ++ l.cells) ∧
      Same l l' ∧ l'.SInv used [] := by
  have hS' : l.SInv used [(p, n)] := hS.irrel hint _
  by_cases hn : n ≤ l.nodeSize
  · rw [cellsOf, if_pos hn] at hap hout ⊢
    rw [Nat.one_mul] at hout
    rw [deallocateBytes_node cfg hint hn]
    exact deallocate_spec cfg (i := 0) hS' rfl hap hout hp0
  · rw [cellsOf, if_neg hn] at hap hout ⊢
    exact deallocateBytes_spec cfg (i := 0) hS' rfl hpos (Nat.lt_of_not_le hn) hap hout hp0

end AnyList
end MemVerif.Model
