import MemVerif.Lemmas.OrdRun
/-! The ordered free list's constructor and single-node operations: the empty list satisfies the invariant, `find_pos` is
correct, `deallocate(ptr)` inserts in address order, and `allocate()` takes the lowest node. -/
namespace MemVerif.Model

theorem OrdList.new_inv (nodeSize B : Nat) (hB : 0 < B) : (OrdList.new nodeSize B (B + 8)).Inv :=
  -- no nodes; the cursor pair `(B, E)` sits at positions 0 and 1
  ⟨.nil, ⟨rfl, hB⟩, ⟨List.not_mem_nil, List.not_mem_nil⟩, nofun, (intrusiveNodeSize_ge nodeSize).2, nofun, rfl,
    0, Nat.le_refl _, if_pos rfl, (if_neg (Nat.ne_of_gt (Nat.lt_add_of_pos_right (by decide)))).trans (if_pos rfl)⟩

/-- **Valid releases are never reported and find the right place**: for a list satisfying the invariant and an address
`m` that is not on the list (and is not one of the proxy words), `find_pos` returns the adjacent pair of positions
around `m`, in every configuration (double-free checking on or off). -/
theorem findPos_valid (l : OrdList) (hI : l.Inv) (dbl : Bool) (m : Nat) (hm : m ∉ l.nodes)
    (hmB : m + l.ns ≤ l.B ∨ l.E + 8 ≤ m) (hm0 : 0 < m) :
    ∃ i, i ≤ l.nodes.length ∧ l.findPos dbl m = .pos i (i + 1) ∧
      (∀ j, j < i → l.nodes.getD j 0 < m) ∧ (∀ j, i ≤ j → j < l.nodes.length → m < l.nodes.getD j 0) := by
  -- the search needs neither `hmB` nor `hm0`
  obtain ⟨i, h, hA⟩ := findPos_around l hI dbl m hm
  exact ⟨i, hA.1, h, hA.2.1, hA.2.2⟩

theorem OrdList.deallocate_spec (cfg : Cfg) (l : OrdList) (hI : l.Inv) (m : Nat) (hm : m ∉ l.nodes) :
    ∃ i, Around l.nodes m i ∧
      l.deallocate cfg m = .ok { l with nodes := l.spliceAt i [m], cap := l.cap + 1, ld := m, ldp := l.addr i } := by
  obtain ⟨i, hfp, hA⟩ := findPos_around l hI cfg.dblDealloc m hm
  refine ⟨i, hA, ?_⟩
  unfold OrdList.deallocate
  rw [hfp, intervalAssertFails_valid l hI m hm]
  simp only [Bool.and_false, Bool.false_eq_true, ne_eq, not_true_eq_false, if_false]

theorem OrdList.deallocate_valid (cfg : Cfg) (l : OrdList) (hI : l.Inv) (m : Nat) (hm : m ∉ l.nodes)
    (hmB : m + l.ns ≤ l.B ∨ l.E + 8 ≤ m) (hm0 : 0 < m) :
    ∃ l', l.deallocate cfg m = .ok l' ∧ l'.nodes = insertAsc m l.nodes ∧ l'.cap = l.cap + 1 ∧ l'.ld = m ∧ l'.Inv ∧
      l'.ns = l.ns ∧ l'.B = l.B ∧ l'.E = l.E := by
  obtain ⟨i, hA, h⟩ := OrdList.deallocate_spec cfg l hI m hm
  refine ⟨_, h, splice_eq_insertAsc hA, rfl, rfl, ?_, rfl, rfl, rfl⟩
  have e : ∀ x ∈ [m], x = m := fun x hx => List.mem_singleton.mp hx
  exact splice_run_inv (R := []) hI hA (List.pairwise_singleton _ _) (fun x hx y _ h => e x hx ▸ h)
    (fun x hx => e x hx ▸ hmB) hm0 rfl rfl rfl rfl rfl (Or.inl ⟨rfl, rfl⟩)

theorem OrdList.allocate_inv (l : OrdList) (hI : l.Inv) (x : Nat) (xs : List Nat) (hn : l.nodes = x :: xs) :
    ∃ l', l.allocate = some (l', x) ∧ l'.nodes = xs ∧ l'.cap + 1 = l.cap ∧ l'.Inv ∧
      l'.ns = l.ns ∧ l'.B = l.B ∧ l'.E = l.E := by
  have hlen : l.nodes.length = xs.length + 1 := by rw [hn]; rfl
  have hcap : l.cap - 1 + 1 = l.cap := by rw [hI.cap, hlen]; rfl
  have hx : l.addr 1 = x := by rw [addr_succ l (hlen ▸ Nat.succ_pos _), hn]; rfl
  -- `allocate()` is the removal of the segment `[x]` after the empty prefix
  have hrem := fun l1 hr e1 e5 => remove_run_inv (l := l) (l' := l1) (A := []) (R := [x]) (B' := xs) hI hr e1 e5
  unfold OrdList.allocate
  simp only [hn]
  refine ⟨_, rfl, ?_⟩
  let P := fun l1 : OrdList => l1.nodes = xs ∧ l1.cap + 1 = l.cap ∧ l1.Inv ∧ l1.ns = l.ns ∧ l1.B = l.B ∧ l1.E = l.E
  refine ite_ind (P := P) (fun h1 => ?_) fun h1 => ite_ind (P := P) (fun h2 => ?_) fun h2 => ?_
  · refine ⟨rfl, hcap, hrem _ ⟨rfl, rfl, rfl, hn⟩ rfl rfl (Or.inl ⟨?_, ?_⟩), rfl, rfl, rfl⟩
    · -- `ld = x` sits at position 1, so `ldp`, which the code leaves alone, is the begin proxy
      exact (hI.cursor_iff (Nat.zero_le _)).2 (h1 ▸ hx.symm)
    · cases xs <;> simp [OrdList.addr, hn]
  · exact ⟨rfl, hcap, hrem _ ⟨rfl, rfl, rfl, hn⟩ rfl rfl (Or.inr (Or.inl ⟨(addr_zero l).symm, rfl, h2 ▸ hx.symm⟩)),
      rfl, rfl, rfl⟩
  · exact ⟨rfl, hcap, hrem _ ⟨rfl, rfl, rfl, hn⟩ rfl rfl
      (Or.inr (Or.inr ⟨rfl, rfl, fun h => h1 (List.mem_singleton.mp h).symm, fun h => h2 (hx ▸ h.symm)⟩)), rfl, rfl, rfl⟩

theorem OrdList.allocate_run (l l' : OrdList) (hI : l.Inv) (x : Nat) (h : l.allocate = some (l', x)) :
    ∃ xs, l.nodes = x :: xs ∧ l'.nodes = xs ∧ l'.Inv ∧ l'.ns = l.ns ∧ l'.B = l.B ∧ l'.E = l.E := by
  cases hn : l.nodes with
  | nil => simp [OrdList.allocate, hn] at h
  | cons y xs =>
    obtain ⟨l1, ha, hnodes, _, hI1, e⟩ := OrdList.allocate_inv l hI y xs hn
    rw [ha] at h
    obtain ⟨rfl, rfl⟩ := h
    exact ⟨xs, rfl, hnodes, hI1, e⟩

end MemVerif.Model
