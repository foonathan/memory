import MemVerif.Lemmas.Unwind
/-! Exact bookkeeping of `memory_stack` histories (non-static source, fewer than 2^64 blocks): `Strong` relates a run to its
start state, `ScopeRes` says what a whole marker scope leaves behind. `AllocCase` is the analysis of one `allocate` on a
cached arena that this invariant, the replay simulation and the placement invariant of C01 share. -/
namespace MemVerif.Model

structure Pre (s : MemStack) : Prop where
  ne : s.arena.used ≠ []
  cached : s.arena.isCached = true
  src : s.arena.src.NonStatic

/-- exact bookkeeping of a run from `s` with result `r` -/
structure Strong (s : MemStack) (r : RunRes) : Prop where
  ok : r.ok = true
  cached : r.st.arena.isCached = true
  leak : r.st.leak = s.leak
  src : SrcStep s.arena.src r.st.arena.src r.acquired.length
  ext : ∃ extra, r.st.arena.used = extra ++ s.arena.used ∧
      extra.reverse ++ r.st.arena.cached = s.arena.cached ++ r.acquired ∧ (extra = [] → s.cur ≤ r.st.cur)

theorem MemStack.Inv.single {src : Src} {b : Blk} (hw : b.Wf) {cur : Nat} (h1 : b.base + implOff ≤ cur)
    (h2 : cur ≤ b.base + b.size) {leak : Int} : MemStack.Inv ⟨⟨src, true, [b], []⟩, cur, leak⟩ :=
  ⟨nofun, rfl, fun _ h => List.mem_singleton.mp h ▸ hw, nofun, fun _ h => Option.some.inj h ▸ ⟨h1, h2⟩⟩

theorem Pre.of_inv {s : MemStack} (hs : s.Inv) (hsrc : ∀ c en b, s.arena.src ≠ .static_ c en b) : Pre s :=
  ⟨hs.nonempty, hs.cached, by
    cases h : s.arena.src with
    | static_ c en b => exact absurd h (hsrc c en b)
    | _ => trivial⟩

theorem Strong.pre {s : MemStack} {r : RunRes} (hp : Pre s) (h : Strong s r) : Pre r.st := by
  obtain ⟨extra, hu, _, _⟩ := h.ext
  refine ⟨?_, h.cached, h.src.right⟩
  rw [hu]; simp [hp.ne]

theorem Strong.owned_perm {s : MemStack} {r : RunRes} (h : Strong s r) :
    (r.st.arena.used ++ r.st.arena.cached).Perm (s.arena.used ++ s.arena.cached ++ r.acquired) := by
  obtain ⟨extra, hu, hc, _⟩ := h.ext
  rw [hu, List.append_assoc s.arena.used, ← hc, ← List.append_assoc]
  -- extra ++ used ++ cached' ~ used ++ extra.reverse ++ cached'
  exact (List.perm_append_comm.trans ((List.reverse_perm extra).symm.append_left _)).append_right _

theorem Strong.total {s : MemStack} {r : RunRes} (h : Strong s r) :
    r.st.arena.used.length + r.st.arena.cached.length =
      s.arena.used.length + s.arena.cached.length + r.acquired.length := by
  simpa only [List.length_append] using h.owned_perm.length_eq

theorem strong_nil (s : MemStack) (k : Nat) (hp : Pre s) :
    Strong s { st := s, k := k, outs := [], acquired := [], ok := true } :=
  ⟨rfl, hp.cached, rfl, SrcStep.refl hp.src, [], rfl, by simp, fun _ => Nat.le_refl _⟩

theorem strong_cons {s : MemStack} {r1 r2 : RunRes} (h1 : Strong s r1) (h2 : Strong r1.st r2) :
    Strong s { st := r2.st, k := r2.k, outs := r1.outs ++ r2.outs, acquired := r1.acquired ++ r2.acquired,
               ok := r1.ok && r2.ok } := by
  obtain ⟨e1, hu1, hc1, hm1⟩ := h1.ext
  obtain ⟨e2, hu2, hc2, hm2⟩ := h2.ext
  refine ⟨by simp [h1.ok, h2.ok], h2.cached, by simp [h2.leak, h1.leak], ?_, e2 ++ e1, ?_, ?_, ?_⟩
  · simp only [List.length_append]
    exact h1.src.trans h2.src
  · simp only []; rw [hu2, hu1, List.append_assoc]
  · simp only []
    rw [List.reverse_append, List.append_assoc, hc2, ← List.append_assoc, hc1, List.append_assoc]
  · intro h
    obtain ⟨rfl, rfl⟩ := List.append_eq_nil_iff.mp h
    exact Nat.le_trans (hm1 rfl) (hm2 rfl)

/-- what one `allocate` does to a stack with a cached arena over a non-static source -/
inductive AllocCase (cfg : Cfg) (s : MemStack) (size align : Nat) : RunRes → Prop
  | crash (k : Nat) (hg : growDec cfg s.cur s.arena.used size align = none) :
      AllocCase cfg s size align ⟨s, k, [.crash], [], false⟩
  | bump (k : Nat) (hg : growDec cfg s.cur s.arena.used size align = some false) :
      AllocCase cfg s size align
        ⟨{ s with cur := bumpCur cfg s.cur size align }, k, [.ok (bumpPtr cfg s.cur align)], [], true⟩
  /-- no block to be had — the cache is empty and upstream refuses or the fixed source is spent: nothing changes -/
  | fail (k : Nat) (ex : Exn) (hg : growDec cfg s.cur s.arena.used size align = some true) (hc : s.arena.cached = [])
      (hex : ex = .upstream ∨ (s.arena.src = .fixed 0 ∧ ex = .oofm)) : AllocCase cfg s size align ⟨s, k, [.throws ex], [], true⟩
  /-- a block is entered: **the head of the cache followed by what upstream gives** -/
  | enter (k : Nat) (n : Blk) (cs acq : List Blk) (src' : Src)
      (hg : growDec cfg s.cur s.arena.used size align = some true) (hn : n :: cs = s.arena.cached ++ acq)
      (hs : SrcStep s.arena.src src' acq.length) :
      AllocCase cfg s size align
        ⟨⟨⟨src', true, n :: s.arena.used, cs⟩, finishCur cfg n.usable size align, s.leak⟩, k,
          [finishOut cfg n.usable size align], acq, true⟩

theorem alloc_enter_cache {cfg : Cfg} {e : EnvS} {src : Src} {used : List Blk} {n : Blk} {cs : List Blk} {cur : Nat}
    {leak : Int} {k size align : Nat} (hg : growDec cfg cur used size align = some true) :
    runOp cfg e ⟨⟨src, true, used, n :: cs⟩, cur, leak⟩ k (.alloc size align) =
      ⟨⟨⟨src, true, n :: used, cs⟩, finishCur cfg n.usable size align, leak⟩, k,
        [finishOut cfg n.usable size align], [], true⟩ := by
  have := finishOut_ne cfg n.usable size align
  simp [runOp, allocate_eq, hg, arena_alloc_cache, this, newBlocks, usedAnswers]

theorem alloc_cases (cfg : Cfg) (e : EnvS) (s : MemStack) (k : Nat) (hc : s.arena.isCached = true)
    (hns : s.arena.src.NonStatic) (size align : Nat) :
    AllocCase cfg s size align (runOp cfg e s k (.alloc size align)) := by
  obtain ⟨⟨src, ic, used, cached⟩, cur, leak⟩ := s
  dsimp only at hc hns
  subst hc
  cases hgd : growDec cfg cur used size align with
  | none => simp only [runOp, allocate_eq, hgd]; exact .crash _ hgd
  | some g =>
    cases g with
    | false => simp only [runOp, allocate_eq, hgd]; exact .bump _ hgd
    | true =>
      cases cached with
      | cons c cs =>
        rw [alloc_enter_cache hgd]
        exact .enter _ c cs [] src hgd (List.append_nil _).symm (SrcStep.refl hns)
      | nil =>
        -- the cache is empty: the source is asked, with the one answer `e k`
        simp only [runOp, allocate_eq, hgd]
        have ha := Arena.allocateBlock_cases ⟨src, true, used, []⟩ [e k]
        generalize Arena.allocateBlock ⟨src, true, used, []⟩ [e k] = res at ha
        cases ha with
        | cache _ hcs => cases hcs
        | envMissing _ hs => cases hs with | envMissing he => cases he
        | fail _ hs =>
          cases hs with
          | refused => exact .fail _ _ hgd rfl (.inl rfl)
          | spent h => exact .fail _ _ hgd rfl (.inr ⟨h ((Src.nonStatic_iff _).1 hns), rfl⟩)
        | new _ hs =>
          cases hs with
          | @given x _ _ _ hst =>
            have := finishOut_ne cfg (Blk.usable ⟨x, src.nextBlockSize⟩) size align
            simp only [this, ne_eq, not_false_eq_true, and_self, decide_true]
            exact .enter _ ⟨x, _⟩ [] [_] _ hgd rfl hst
          | carved h =>
            dsimp only at h
            subst h
            exact hns.elim

theorem strong_alloc (cfg : Cfg) (e : EnvS) (s : MemStack) (k : Nat) (hp : Pre s) (size align : Nat) :
    Strong s (runOp cfg e s k (.alloc size align)) := by
  have h := alloc_cases cfg e s k hp.cached hp.src size align
  generalize runOp cfg e s k (.alloc size align) = r at h
  cases h with
  | crash k hg => exact absurd hg (growDec_ne_none hp.ne)
  | bump k hg =>
    exact ⟨rfl, hp.cached, rfl, SrcStep.refl hp.src, [], rfl, (List.append_nil _).symm,
      fun _ => le_bumpCur ..⟩
  | fail k ex => exact ⟨rfl, hp.cached, rfl, SrcStep.refl hp.src, [], rfl, (List.append_nil _).symm, fun _ => Nat.le_refl _⟩
  | enter k n cs acq src' hg hn hs => exact ⟨rfl, rfl, rfl, hs, [n], rfl, hn, fun h => nomatch h⟩

theorem strong_try (cfg : Cfg) (e : EnvS) (s : MemStack) (k : Nat) (hp : Pre s) (size align : Nat) :
    Strong s (runOp cfg e s k (.tryAlloc size align)) := by
  obtain ⟨h1, h2⟩ := tryCore_spec cfg s.cur s.arena.used size align
  simp only [runOp, tryAllocate_core]
  exact ⟨decide_eq_true (h2 hp.ne), hp.cached, rfl, SrcStep.refl hp.src, [], rfl, (List.append_nil _).symm, fun _ => h1⟩

/-- exact effect of a whole marker scope -/
structure ScopeRes (s : MemStack) (r : RunRes) : Prop where
  ok : r.ok = true
  cur : r.st.cur = s.cur
  used : r.st.arena.used = s.arena.used
  cached : r.st.arena.cached = s.arena.cached ++ r.acquired
  leak : r.st.leak = s.leak
  isCached : r.st.arena.isCached = true
  src : SrcStep s.arena.src r.st.arena.src r.acquired.length

theorem ScopeRes.strong {s : MemStack} {r : RunRes} (h : ScopeRes s r) : Strong s r :=
  ⟨h.ok, h.isCached, h.leak, h.src, [], h.used, by simp [h.cached], fun _ => by rw [h.cur]; exact Nat.le_refl _⟩

theorem scope_acquired (cfg : Cfg) (e : EnvS) (s : MemStack) (k : Nat) (ops : List SOp) (hne : s.arena.used ≠ []) :
    (runOp cfg e s k (.scope ops)).acquired = (runOps cfg e s k ops).acquired := by
  obtain ⟨m, hm⟩ := top_of_ne hne
  simp only [runOp, hm]

theorem scope_of_inner (cfg : Cfg) (e : EnvS) (s : MemStack) (k : Nat) (ops : List SOp) (hp : Pre s)
    (hin : Strong s (runOps cfg e s k ops))
    (hlen : s.arena.used.length + s.arena.cached.length + (runOps cfg e s k ops).acquired.length < 2 ^ 64) :
    ScopeRes s (runOp cfg e s k (.scope ops)) := by
  obtain ⟨m, hm⟩ := top_of_ne hp.ne
  obtain ⟨extra, hu, hc, hmono⟩ := hin.ext
  have htot := hin.total
  have hue := unwind_exact cfg s (runOps cfg e s k ops).st m hm hin.cached extra hu hmono (by omega)
  simp only [runOp, hm, MemStack.unwind, hue]
  exact ⟨by simp [hin.ok], rfl, rfl, hc, hin.leak, hin.cached, hin.src⟩

mutual
theorem strong_op (cfg : Cfg) (e : EnvS) : ∀ (op : SOp) (s : MemStack) (k : Nat), Pre s →
    s.arena.used.length + s.arena.cached.length + (runOp cfg e s k op).acquired.length < 2 ^ 64 →
    Strong s (runOp cfg e s k op)
  | .alloc size align, s, k, hp, _ => strong_alloc cfg e s k hp size align
  | .tryAlloc size align, s, k, hp, _ => strong_try cfg e s k hp size align
  | .scope ops, s, k, hp, hlen => by
    rw [scope_acquired cfg e s k ops hp.ne] at hlen
    exact (scope_of_inner cfg e s k ops hp (strong_ops cfg e ops s k hp hlen) hlen).strong
theorem strong_ops (cfg : Cfg) (e : EnvS) : ∀ (ops : List SOp) (s : MemStack) (k : Nat), Pre s →
    s.arena.used.length + s.arena.cached.length + (runOps cfg e s k ops).acquired.length < 2 ^ 64 →
    Strong s (runOps cfg e s k ops)
  | [], s, k, hp, _ => by
    simp only [runOps]
    exact strong_nil s k hp
  | op :: ops, s, k, hp, hlen => by
    simp only [runOps, List.length_append] at hlen ⊢
    have h1 := strong_op cfg e op s k hp (Nat.lt_of_le_of_lt (Nat.add_le_add_left (Nat.le_add_right _ _) _) hlen)
    have h2 := strong_ops cfg e ops (runOp cfg e s k op).st (runOp cfg e s k op).k (h1.pre hp)
      (by rw [h1.total, Nat.add_assoc]; exact hlen)
    exact strong_cons h1 h2
end

theorem scope_res (cfg : Cfg) (e : EnvS) (s : MemStack) (k : Nat) (ops : List SOp) (hp : Pre s)
    (hlen : s.arena.used.length + s.arena.cached.length + (runOps cfg e s k ops).acquired.length < 2 ^ 64) :
    ScopeRes s (runOp cfg e s k (.scope ops)) :=
  scope_of_inner cfg e s k ops hp (strong_ops cfg e ops s k hp hlen) hlen

end MemVerif.Model
