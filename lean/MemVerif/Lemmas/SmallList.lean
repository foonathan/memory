import MemVerif.Lemmas.Sizes
/-!
The small free list on its own: the shapes of `insert`, `allocate` and `deallocate`; soundness and termination of the
chunk search (`findChunk_ok`) and the normal form of `deallocate` it gives; the counter invariants, all of the form
"the list counter is the sum of the chunk counters and every chunk satisfies `Q`" (`SmallAll`), of which the invariants
of `Props/C04Lists.lean` are the instances.
-/
namespace MemVerif.Model

theorem insertSorted_cons (cs : List Chunk) (b : Chunk) (bs : List Chunk) :
    insertSorted cs (b :: bs) =
      cs.takeWhile (fun c => c.base < b.base) ++ (b :: bs) ++ cs.dropWhile (fun c => c.base < b.base) := by
  have h := List.takeWhile_append_dropWhile (p := fun c : Chunk => decide (c.base < b.base)) (l := cs)
  unfold insertSorted
  simp only
  congr 1
  conv => lhs; arg 2; rw [← h]
  exact List.drop_left

theorem insertSorted_split (cs new : List Chunk) :
    ∃ before rest, cs = before ++ rest ∧ insertSorted cs new = before ++ new ++ rest := by
  cases new with
  | nil => exact ⟨cs, [], (List.append_nil cs).symm, by rw [List.append_nil, List.append_nil]; rfl⟩
  | cons b bs => exact ⟨_, _, List.takeWhile_append_dropWhile.symm, insertSorted_cons cs b bs⟩

theorem insertSorted_sum (f : Chunk → Nat) (cs new : List Chunk) :
    ((insertSorted cs new).map f).sum = (cs.map f).sum + (new.map f).sum := by
  obtain ⟨before, rest, rfl, h⟩ := insertSorted_split cs new
  rw [h]
  simp only [List.map_append, List.sum_append]
  omega

theorem insertSorted_mem (cs new : List Chunk) (c : Chunk) :
    c ∈ insertSorted cs new ↔ c ∈ cs ∨ c ∈ new := by
  obtain ⟨before, rest, rfl, h⟩ := insertSorted_split cs new
  rw [h]
  simp only [List.mem_append]
  exact or_right_comm

theorem SmallList.insert_eq (l : SmallList) (mem size : Nat) :
    l.insert mem size =
      if (smallInsertChunks l.ns mem size).1.isEmpty then none
      else some { l with chunks := insertSorted l.chunks (smallInsertChunks l.ns mem size).1,
                         cap := l.cap + (smallInsertChunks l.ns mem size).2 } := rfl

theorem SmallList.insert_shape {l l' : SmallList} {mem size : Nat} (h : l.insert mem size = some l') :
    l' = { l with chunks := insertSorted l.chunks (smallInsertChunks l.ns mem size).1,
                  cap := l.cap + (smallInsertChunks l.ns mem size).2 } := by
  rw [SmallList.insert_eq] at h
  split at h
  · cases h
  · exact (Option.some.inj h).symm

/-- state after `allocate()` took the head `idx` of the free chain `idx :: rest` of chunk `c` at index `i` -/
def SmallList.allocResult (l : SmallList) (i : Nat) (c : Chunk) (rest : List Nat) : SmallList :=
  { l with chunks := l.chunks.set i { c with capacity := c.capacity - 1, free := rest },
           cap := l.cap - 1, allocChunk := c.base }

theorem SmallList.allocate_shape {l l' : SmallList} {p : Nat} (h : l.allocate = some (l', p)) :
    ∃ i c idx rest, l.chunks[i]? = some c ∧ c.free = idx :: rest ∧ l' = l.allocResult i c rest ∧
      p = c.base + chunkOff + idx * l.ns := by
  unfold SmallList.allocate at h
  split at h
  · cases h
  · cases h
  · rename_i i _
    split at h
    · cases h
    · rename_i c hc
      split at h
      · cases h
      · rename_i idx rest hfree
        cases h
        exact ⟨i, c, idx, rest, hc, hfree, rfl, rfl⟩

/-- what the chunk search may answer: a chunk only if its node area holds the pointer, and never `hang` -/
def ChunkSearch.Ok (l : SmallList) (p : Nat) : ChunkSearch → Prop
  | .found j => l.fromAt j p = true
  | .hang => False
  | _ => True

/-- the two-cursor walk is sound and **terminates**: started inside the ring it never runs out of fuel (each round moves
the forward cursor one position further and the loop ends at the latest when that cursor reaches the proxy) -/
theorem findChunkRange_go_ok (l : SmallList) (p m : Nat) :
    ∀ fuel f b, f < m → m < f + fuel → (SmallList.findChunkRange.go l p m fuel f b).Ok l p := by
  intro fuel
  induction fuel with
  | zero => intro f b hf h; exact absurd h (Nat.lt_asymm hf)
  | succ fuel ih =>
    intro f b hf hfuel
    unfold SmallList.findChunkRange.go
    -- `ChunkSearch.Ok l p (.found f)` is the very condition `l.fromAt f p = true` of the `if`, hence `id`
    refine ite_ind id fun _ => ite_ind id fun _ => ite_ind (fun _ => trivial) fun hcond => ?_
    -- the forward cursor did not wrap to the proxy, so it really moved one step
    have hlt : f + 1 < m := by
      apply Nat.lt_of_le_of_ne hf
      intro h
      apply hcond
      rw [show (f + 1) % m = 0 from h ▸ Nat.mod_self _]
      simp
    rw [Nat.mod_eq_of_lt hlt]
    exact ih _ _ hlt (Nat.add_right_comm f fuel 1 ▸ hfuel)

theorem findChunkRange_ok (l : SmallList) (p : Nat) {f b : Nat} (hf : f < l.chunks.length + 1) :
    (l.findChunkRange p f b).Ok l p :=
  findChunkRange_go_ok l p _ _ f b hf (Nat.lt_add_left f (Nat.lt_add_of_pos_right (by decide)))

theorem findChunk_ok (l : SmallList) (p : Nat) : (l.findChunk p).Ok l p := by
  have hm : ∀ x, x % (l.chunks.length + 1) < l.chunks.length + 1 := fun x => Nat.mod_lt _ (Nat.succ_pos _)
  unfold SmallList.findChunk
  cases l.posOf l.deallocChunk with
  | none => trivial
  | some d =>
    cases l.posOf l.allocChunk with
    | none => trivial
    | some a =>
      -- `id` as in `findChunkRange_go_ok`
      exact ite_ind id fun _ => ite_ind id fun _ => ite_ind (fun _ => findChunkRange_ok l p (hm _)) fun _ =>
        ite_ind (fun _ => findChunkRange_ok l p (hm _)) fun _ => trivial

/-- extent of a chunk: header and node area -/
def Chunk.endOf (c : Chunk) (ns : Nat) : Nat := c.base + chunkOff + c.noNodes * ns

theorem Chunk.base_lt_endOf (c : Chunk) (ns : Nat) : c.base < c.endOf ns :=
  Nat.lt_of_lt_of_le (Nat.lt_add_of_pos_right chunkOff_pos) (Nat.le_add_right _ _)

theorem fromAt_iff {l : SmallList} {j p : Nat} :
    l.fromAt j p = true ↔ ∃ i c, j = i + 1 ∧ l.chunks[i]? = some c ∧ c.base + chunkOff ≤ p ∧ p < c.endOf l.ns := by
  unfold SmallList.fromAt Chunk.endOf
  cases j with
  | zero => exact ⟨fun h => (nomatch h), fun ⟨_, _, h, _⟩ => (nomatch h)⟩
  | succ i =>
    rw [if_neg (Nat.succ_ne_zero i), Nat.add_sub_cancel]
    constructor
    · intro h
      split at h
      · cases h
      · rename_i c hc
        exact ⟨i, c, rfl, hc, of_decide_eq_true h⟩
    · rintro ⟨_, c, e, hc, h⟩
      cases e
      rw [hc]
      exact decide_eq_true h

/-- `deallocate` in normal form: the search ends in the unreachable path or finds no chunk, or it finds a chunk whose node
area holds `p` and the three checks decide -/
theorem SmallList.deallocate_cases (cfg : Cfg) (l : SmallList) (p : Nat) :
    l.deallocate cfg p = .handler "unreachable" ∨
    l.deallocate cfg p = (if cfg.ptrCheck then .handler "invalid_pointer" else .crash) ∨
    ∃ i c, l.chunks[i]? = some c ∧ (c.base + chunkOff ≤ p ∧ p < c.base + chunkOff + c.noNodes * l.ns) ∧
      l.deallocate cfg p =
        if cfg.ptrCheck && (p - (c.base + chunkOff)) % l.ns ≠ 0 then .handler "invalid_pointer"
        else if cfg.ptrCheck && cfg.dblDealloc && c.free.contains ((p - (c.base + chunkOff)) / l.ns) then
          .handler "invalid_pointer"
        else .ok (l.deallocResult i c p) := by
  have hok := findChunk_ok l p
  unfold SmallList.deallocate
  split
  · exact Or.inl rfl
  · rename_i h; rw [h] at hok; exact hok.elim
  · exact Or.inr (Or.inl rfl)
  · rename_i h; rw [h] at hok; exact nomatch (show l.fromAt 0 p = true from hok)
  · rename_i i h
    rw [h] at hok
    obtain ⟨_, c, e, hc, harea⟩ := fromAt_iff.1 hok
    cases e
    exact Or.inr (Or.inr ⟨i, c, hc, harea, by simp only [hc]⟩)

theorem SmallList.deallocate_shape {cfg : Cfg} {l l' : SmallList} {p : Nat} (h : l.deallocate cfg p = .ok l') :
    ∃ i c, l.chunks[i]? = some c ∧ (c.base + chunkOff ≤ p ∧ p < c.base + chunkOff + c.noNodes * l.ns) ∧
      l' = l.deallocResult i c p ∧
      (cfg.ptrCheck = true → cfg.dblDealloc = true → (p - (c.base + chunkOff)) / l.ns ∉ c.free) := by
  rcases l.deallocate_cases cfg p with e | e | ⟨i, c, hc, harea, e⟩ <;> rw [e] at h
  · cases h
  · split at h <;> cases h
  · split at h
    · cases h
    · split at h
      · cases h
      · rename_i hchk
        simp only [ListRes.ok.injEq] at h
        exact ⟨i, c, hc, harea, h.symm, fun h1 h2 => by simpa [h1, h2] using hchk⟩

/-- the form of the small list's counter invariants; an operation keeps it as soon as `Q` holds of the chunk it builds or
changes -/
def SmallAll (Q : Chunk → Prop) (l : SmallList) : Prop :=
  l.cap = (l.chunks.map Chunk.capacity).sum ∧ ∀ c ∈ l.chunks, Q c

theorem SmallAll.imp {Q Q' : Chunk → Prop} {l : SmallList} (hQ : ∀ c, Q c → Q' c) (h : SmallAll Q l) : SmallAll Q' l :=
  ⟨h.1, fun c hc => hQ c (h.2 c hc)⟩

theorem SmallAll.insert {Q : Chunk → Prop} {l l' : SmallList} {mem size : Nat} (hI : SmallAll Q l) (hns : 0 < l.ns)
    (h : l.insert mem size = some l') (hQ : ∀ c : Chunk, c.capacity = c.noNodes → c.free = List.range c.noNodes → Q c) :
    SmallAll Q l' := by
  have hfresh := smallInsertChunks_fresh l.ns mem size
  rw [SmallList.insert_shape h]
  refine ⟨?_, fun c hc => ?_⟩
  · show l.cap + _ = _
    rw [insertSorted_sum, hI.1, smallInsertChunks_sum l.ns mem size hns]
  · rcases (insertSorted_mem _ _ c).1 hc with hc | hc
    · exact hI.2 c hc
    · exact hQ c (hfresh c hc).1 (hfresh c hc).2.1

/-- one chunk is replaced, and its counter and the list counter move by the same amount `e - d` (which does not
truncate: the chunk counter is part of the list counter) -/
theorem SmallAll.set {Q : Chunk → Prop} {l l' : SmallList} {i : Nat} {c c' : Chunk} (d e : Nat) (hI : SmallAll Q l)
    (hc : l.chunks[i]? = some c) (hch : l'.chunks = l.chunks.set i c') (hQ : Q c')
    (hk : c'.capacity + d = c.capacity + e) (hcap : l'.cap = l.cap + e - d) :
    SmallAll Q l' ∧ l'.cap + d = l.cap + e := by
  have hsum := List.sum_map_set Chunk.capacity c' hc
  have key : ((l.chunks.set i c').map Chunk.capacity).sum + d = l.cap + e := by
    have := hI.1
    omega
  rw [SmallAll, hch, hcap, ← key, Nat.add_sub_cancel]
  refine ⟨⟨rfl, fun x hx => ?_⟩, rfl⟩
  rcases List.mem_or_eq_of_mem_set hx with hx | rfl
  · exact hI.2 x hx
  · exact hQ

theorem SmallAll.pop {Q : Chunk → Prop} {l : SmallList} {i idx : Nat} {c : Chunk} {rest : List Nat} (hI : SmallAll Q l)
    (hc : l.chunks[i]? = some c) (hfree : c.free = idx :: rest) (hcap : c.capacity = c.free.length)
    (hQ : c.capacity - 1 = rest.length → Q { c with capacity := c.capacity - 1, free := rest }) :
    SmallAll Q (l.allocResult i c rest) ∧ (l.allocResult i c rest).cap + 1 = l.cap := by
  rw [hfree, List.length_cons] at hcap
  exact hI.set 1 0 hc rfl (hQ (by rw [hcap, Nat.add_sub_cancel])) (by rw [hcap, Nat.add_sub_cancel]) rfl

theorem SmallAll.push {Q : Chunk → Prop} {l : SmallList} {i : Nat} {c : Chunk} (p : Nat) (hI : SmallAll Q l)
    (hc : l.chunks[i]? = some c)
    (hQ : Q { c with capacity := c.capacity + 1, free := (p - (c.base + chunkOff)) / l.ns :: c.free }) :
    SmallAll Q (l.deallocResult i c p) :=
  (hI.set 0 1 hc rfl hQ rfl rfl).1

end MemVerif.Model

namespace MemVerif.Props.C04Lists
open MemVerif.Model

/-- the invariant asked for: the list counter is the sum of the chunk counters, each chunk counter is the length of
its free chain, and no chunk has more free nodes than nodes -/
def SmallInv (l : SmallList) : Prop :=
  l.cap = (l.chunks.map Chunk.capacity).sum ∧
  ∀ c ∈ l.chunks, c.capacity = c.free.length ∧ c.free.length ≤ c.noNodes

/-- the part of it that every operation keeps unconditionally -/
def SmallCapInv (l : SmallList) : Prop :=
  l.cap = (l.chunks.map Chunk.capacity).sum ∧ ∀ c ∈ l.chunks, c.capacity = c.free.length

/-- the stronger, structural form: the free chain of a chunk has no repetition and only holds node indices of the
chunk (this is what makes `≤ noNodes` an invariant of `deallocate`) -/
def SmallInvS (l : SmallList) : Prop :=
  l.cap = (l.chunks.map Chunk.capacity).sum ∧
  ∀ c ∈ l.chunks, c.capacity = c.free.length ∧ c.free.Nodup ∧ ∀ i ∈ c.free, i < c.noNodes

theorem SmallInvS.toInv {l : SmallList} (h : SmallInvS l) : SmallInv l :=
  SmallAll.imp (fun _ hc => ⟨hc.1, List.length_le_of_nodup_of_lt hc.2.1 hc.2.2⟩) h

theorem SmallInvS.new (ns P : Nat) : SmallInvS (SmallList.new ns P) :=
  ⟨rfl, fun _ hc => nomatch hc⟩

theorem SmallInvS.insert {l l' : SmallList} {mem size : Nat} (hI : SmallInvS l) (hns : 0 < l.ns)
    (h : l.insert mem size = some l') : SmallInvS l' :=
  SmallAll.insert hI hns h fun c h1 h2 => by
    rw [h1, h2]; exact ⟨List.length_range.symm, List.nodup_range, fun i hi => List.mem_range.1 hi⟩

theorem SmallInvS.allocResult {l : SmallList} {i idx : Nat} {c : Chunk} {rest : List Nat} (hI : SmallInvS l)
    (hc : l.chunks[i]? = some c) (hfree : c.free = idx :: rest) : SmallInvS (l.allocResult i c rest) := by
  obtain ⟨h1, h2, h3⟩ := hI.2 c (List.mem_of_getElem? hc)
  exact (SmallAll.pop hI hc hfree h1 fun e =>
    ⟨e, (List.nodup_cons.1 (hfree ▸ h2)).2, fun j hj => h3 j (hfree ▸ List.mem_cons_of_mem _ hj)⟩).1

theorem SmallInvS.deallocResult {l : SmallList} {i : Nat} {c : Chunk} (p : Nat) (hI : SmallInvS l) (hns : 0 < l.ns)
    (hc : l.chunks[i]? = some c) (hfrom : c.base + chunkOff ≤ p ∧ p < c.base + chunkOff + c.noNodes * l.ns)
    (hnotin : (p - (c.base + chunkOff)) / l.ns ∉ c.free) : SmallInvS (l.deallocResult i c p) := by
  obtain ⟨h1, h2, h3⟩ := hI.2 c (List.mem_of_getElem? hc)
  have hidx : (p - (c.base + chunkOff)) / l.ns < c.noNodes :=
    (Nat.div_lt_iff_lt_mul hns).2 (Nat.sub_lt_left_of_lt_add hfrom.1 hfrom.2)
  exact SmallAll.push p hI hc ⟨congrArg (· + 1) h1, List.nodup_cons.2 ⟨hnotin, h2⟩, List.forall_mem_cons.2 ⟨hidx, h3⟩⟩

end MemVerif.Props.C04Lists
