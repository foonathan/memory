import MemVerif.Lemmas.StackAlloc
/-! `memory_stack::unwind` on a cached arena: closed form of `deallocN`, marker order, and **`unwind` as a function of the
top pointer and the used blocks only** (`unwindCore`) with what it can do whatever the marker (`UnwindSpec`) and what it
does to a marker taken earlier (`unwind_exact`). -/
namespace MemVerif.Model

theorem deallocN_cached (cfg : Cfg) (src : Src) :
    ∀ (k : Nat) (used : List Blk) (cached : List Blk),
    Arena.deallocN cfg ⟨src, true, used, cached⟩ k =
      if k ≤ used.length then some (⟨src, true, used.drop k, (used.take k).reverse ++ cached⟩, []) else none
  | 0, used, cached => by simp [Arena.deallocN]
  | k + 1, [], cached => by simp [Arena.deallocN, Arena.deallocateBlock]
  | k + 1, b :: us, cached => by
    simp only [Arena.deallocN, Arena.deallocateBlock, if_true]
    rw [deallocN_cached cfg src k us (b :: cached)]
    by_cases h : k ≤ us.length <;> simp [h]

theorem Marker.lt_iff (a b : Marker) :
    a.lt b = true ↔ (a.index < b.index ∨ (a.index = b.index ∧ a.top < b.top)) := by
  unfold Marker.lt
  by_cases h : a.index = b.index
  · simp [h]
  · simp [h]

theorem Marker.le_iff (a b : Marker) :
    a.le b = true ↔ (a.index < b.index ∨ (a.index = b.index ∧ a.top ≤ b.top)) := by
  unfold Marker.le
  rw [Bool.not_eq_true', ← Bool.not_eq_true, Marker.lt_iff]
  omega

theorem top_eq {s : MemStack} {m : Marker} (h : s.top = some m) :
    s.arena.used ≠ [] ∧ m.index = s.arena.used.length - 1 ∧ m.top = s.cur ∧ blkEnd s.arena.used = some m.end_ := by
  unfold MemStack.top at h
  rw [blockEnd_eq] at h
  split at h
  · exact absurd h (by simp)
  · rename_i e he
    simp only [Option.some.injEq] at h
    subst h
    refine ⟨?_, rfl, rfl, he⟩
    intro h0
    rw [h0] at he
    simp [blkEnd] at he

theorem top_of_ne {s : MemStack} (h : s.arena.used ≠ []) : ∃ m, s.top = some m := by
  obtain ⟨e, he⟩ := blkEnd_isSome h
  unfold MemStack.top
  rw [blockEnd_eq, he]
  exact ⟨_, rfl⟩

/-- `unwind` once the marker passed the first two checks: `k` blocks lie above the marker's -/
def unwindPop (cfg : Cfg) (cur : Nat) (used : List Blk) (m : Marker) (k : Nat) : Nat × Nat × Out :=
  if k ≠ 0 then
    if k ≤ used.length then
      match blkEnd (used.drop k) with
      | none => (cur, k, .crash)
      | some e => if cfg.ptrCheck && m.end_ ≠ e then (cur, k, .handler "invalid_pointer") else (m.top, k, .done)
    else (cur, 0, .crash)
  else
    if cfg.ptrCheck && !(cur ≥ m.top) then (cur, 0, .handler "invalid_pointer") else (m.top, 0, .done)

/-- `unwind` on a cached arena, as a function of the top pointer and the used blocks only:
`(new top, number of blocks moved to the cache, outcome)` -/
def unwindCore (cfg : Cfg) (cur : Nat) (used : List Blk) (m : Marker) : Nat × Nat × Out :=
  match blkEnd used with
  | none => (cur, 0, .crash)
  | some e0 =>
    if cfg.assert && !(m.le ⟨used.length - 1, cur, e0⟩) then (cur, 0, .handler "assert")
    else if cfg.ptrCheck && !(m.index ≤ used.length - 1) then (cur, 0, .handler "invalid_pointer")
    else unwindPop cfg cur used m (sub64 (used.length - 1) m.index)

/-- the result of `unwind` on a cached arena, from what `unwindCore` says: the blocks popped go to the cache -/
def unwound (s : MemStack) (r : Nat × Nat × Out) : MemStack × Out × List UpEv :=
  ({ s with arena := { s.arena with used := s.arena.used.drop r.2.1,
                                     cached := (s.arena.used.take r.2.1).reverse ++ s.arena.cached },
            cur := r.1 }, r.2.2, [])

theorem unwindEv_core (cfg : Cfg) {s : MemStack} (hc : s.arena.isCached = true) (m : Marker) :
    s.unwindEv cfg m = unwound s (unwindCore cfg s.cur s.arena.used m) := by
  obtain ⟨⟨src, ic, used, cached⟩, cur, leak⟩ := s
  cases hc
  unfold MemStack.unwindEv unwindCore unwindPop MemStack.top
  rw [blockEnd_eq]
  cases blkEnd used with
  | none => rfl
  | some e0 =>
    dsimp only
    -- the two functions branch on the same conditions; only the `deallocN` branch needs its closed form
    refine ite_eq_apply_ite (unwound _) (fun _ => rfl) fun _ => ?_
    refine ite_eq_apply_ite (unwound _) (fun _ => rfl) fun _ => ?_
    refine ite_eq_apply_ite (unwound _) (fun _ => ?_) fun _ => ?_
    · rw [deallocN_cached]
      by_cases hk : sub64 (used.length - 1) m.index ≤ used.length
      · rw [if_pos hk, if_pos hk]
        dsimp only
        rw [blockEnd_eq]
        cases blkEnd (List.drop (sub64 (used.length - 1) m.index) used) with
        | none => rfl
        | some e => exact ite_eq_apply_ite (unwound _) (fun _ => rfl) fun _ => rfl
      · rw [if_neg hk, if_neg hk]
        rfl
    · exact ite_eq_apply_ite (unwound _) (fun _ => rfl) fun _ => rfl

/-- what `unwind` can do: it moves `k ≤ K` blocks to the cache (`K` the distance of the marker's block from the top); it
either succeeds and sets the top to the marker's, or leaves the top alone — the latter, once blocks were moved, only if
the uncovered block does not end where the marker says -/
def UnwindSpec (cur : Nat) (used : List Blk) (m : Marker) (K : Nat) (r : Nat × Nat × Out) : Prop :=
  r.2.1 ≤ K ∧
    ((r.2.2 = .done ∧ r.1 = m.top) ∨ (r.1 = cur ∧ (r.2.1 = 0 ∨ blkEnd (used.drop r.2.1) ≠ some m.end_)))

theorem UnwindSpec.stay {cur : Nat} {used : List Blk} {m : Marker} {K : Nat} (out : Out) :
    UnwindSpec cur used m K (cur, 0, out) :=
  ⟨Nat.zero_le _, .inr ⟨rfl, .inl rfl⟩⟩

theorem unwindPop_spec (cfg : Cfg) (cur : Nat) (used : List Blk) (m : Marker) (K : Nat) :
    UnwindSpec cur used m K (unwindPop cfg cur used m K) := by
  unfold unwindPop
  -- the branches in the order of `unwindPop`: `K ≠ 0` with enough blocks (below) and with too few; `K = 0` with the top
  -- check failing and passing
  refine ite_ind (fun _ => ite_ind (fun _ => ?_) fun _ => .stay _)
    fun _ => ite_ind (fun _ => .stay _) fun _ => ⟨Nat.zero_le _, .inl ⟨rfl, rfl⟩⟩
  cases he : blkEnd (used.drop K) with
  | none => exact ⟨Nat.le_refl _, .inr ⟨rfl, .inr (by rw [he]; simp)⟩⟩
  | some e =>
    refine ite_ind (fun hchk => ⟨Nat.le_refl _, .inr ⟨rfl, .inr ?_⟩⟩) fun _ => ⟨Nat.le_refl _, .inl ⟨rfl, rfl⟩⟩
    rw [he]
    simp only [Bool.and_eq_true, decide_eq_true_eq] at hchk
    exact fun h => hchk.2 (Option.some.inj h).symm

theorem unwindCore_spec (cfg : Cfg) (cur : Nat) (used : List Blk) (m : Marker) :
    UnwindSpec cur used m (sub64 (used.length - 1) m.index) (unwindCore cfg cur used m) := by
  unfold unwindCore
  cases blkEnd used with
  | none => exact .stay _
  | some e0 => exact ite_ind (fun _ => .stay _) fun _ => ite_ind (fun _ => .stay _) fun _ => unwindPop_spec ..

theorem unwind_exact (cfg : Cfg) (t r : MemStack) (m : Marker) (hm : t.top = some m)
    (hc : r.arena.isCached = true) (extra : List Blk) (hu : r.arena.used = extra ++ t.arena.used)
    (hcur : extra = [] → t.cur ≤ r.cur) (hlen : r.arena.used.length < 2 ^ 64) :
    r.unwindEv cfg m =
      ({ r with arena := { r.arena with used := t.arena.used, cached := extra.reverse ++ r.arena.cached },
                cur := t.cur }, .done, []) := by
  obtain ⟨hne, hidx, htop, hend⟩ := top_eq hm
  rw [hu] at hlen
  -- all checks pass and exactly the blocks of `extra` are moved
  have hcore : unwindCore cfg r.cur (extra ++ t.arena.used) m = (t.cur, extra.length, .done) := by
    obtain ⟨e0, he0⟩ := blkEnd_isSome (used := extra ++ t.arena.used) (by simp [hne])
    have hn : (extra ++ t.arena.used).length - 1 = m.index + extra.length := by rw [List.length_append_sub_one hne, hidx]
    have hk : sub64 (m.index + extra.length) m.index = extra.length := by
      rw [sub64_eq (Nat.le_add_right _ _) (hn ▸ Nat.lt_of_le_of_lt (Nat.sub_le _ _) hlen), Nat.add_sub_cancel_left]
    have hle : m.le ⟨m.index + extra.length, r.cur, e0⟩ = true := by
      rw [Marker.le_iff]
      cases extra with
      | nil => exact .inr ⟨rfl, htop ▸ hcur rfl⟩
      | cons => exact .inl (Nat.lt_add_of_pos_right (Nat.succ_pos _))
    unfold unwindCore unwindPop
    simp only [he0, hn, hle, hk, Nat.le_add_right, Bool.not_true, Bool.and_false, decide_true, Bool.false_eq_true, if_false]
    cases extra with
    | nil => have := hcur rfl; simp [htop, this]
    | cons b bs => simp [hend, htop]
  rw [unwindEv_core cfg hc, unwound, hu, hcore]
  simp

end MemVerif.Model
