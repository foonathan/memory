import MemVerif.Lemmas.CollServed
/-!
Histories over a collection (`GColl`: node operations; `GCollA`: node and array operations and `reserve`): every step
keeps what `Kept` says, hence every history does. The environment's part is the hypothesis on the *final* used-block
list, which contains every block the collection ever held (`run_ext`: an uncached collection arena never releases a
block before its destruction).
-/
namespace MemVerif.Model

theorem Coll.deallocateNode_ext (cfg : Cfg) (c : Coll) (a s : Nat) : CExt c (c.deallocateNode cfg a s).st := by
  unfold Coll.deallocateNode
  simp only
  split
  · exact CExt.refl _
  · split
    · exact CExt.setList
    · exact CExt.refl _
    · exact CExt.refl _

theorem Coll.deallocateArray_ext (cfg : Cfg) (c : Coll) (a count s : Nat) : CExt c (c.deallocateArray cfg a count s).st := by
  unfold Coll.deallocateArray
  simp only
  split
  · exact CExt.refl _
  · split
    · exact CExt.setList
    · exact CExt.refl _
    · exact CExt.refl _

theorem GColl.step_ext (cfg : Cfg) (e : EnvS) (g : GColl) (k : Nat) (op : COpn) : CExt g.c (g.step cfg e k op).1.c := by
  unfold GColl.step GColl.exec
  cases op with
  | allocNode s => exact (Coll.allocateNode_served cfg g.c s _).ext
  | tryAllocNode s => exact (Coll.tryAllocateNode_served cfg g.c s).ext
  | dealloc i =>
    simp only
    split
    · exact CExt.refl _
    · exact Coll.deallocateNode_ext cfg g.c _ _

theorem GColl.run_ext (cfg : Cfg) (e : EnvS) (ops : List COpn) : ∀ (g : GColl) (k : Nat), CExt g.c (g.run cfg e k ops).1.c := by
  induction ops with
  | nil =>
    intro g k
    exact CExt.refl _
  | cons op ops ih =>
    intro g k
    exact (GColl.step_ext cfg e g k op).trans (ih _ _)

theorem GColl.run_append (cfg : Cfg) (e : EnvS) (ops1 ops2 : List COpn) : ∀ (g : GColl) (k : Nat),
    g.run cfg e k (ops1 ++ ops2) = (g.run cfg e k ops1).1.run cfg e (g.run cfg e k ops1).2 ops2 := by
  induction ops1 with
  | nil =>
    intro g k
    rfl
  | cons op ops1 ih =>
    intro g k
    exact ih _ _

theorem GColl.step_kept (cfg : Cfg) (e : EnvS) {arr arrLen : Nat} (g : GColl) (k : Nat) (op : COpn)
    (h : CInv arr arrLen g.c g.live) (hf : cfg.fence ≤ 2 ^ 32) (hb : BlocksOk (g.step cfg e k op).1.c.arena.used) :
    Kept arr arrLen g.c g.live (g.step cfg e k op).1.c (g.step cfg e k op).1.live := by
  unfold GColl.step GColl.exec at hb ⊢
  cases op with
  | allocNode s => exact (Coll.allocateNode_served cfg g.c s _).keptNode h hf hb
  | tryAllocNode s => exact (Coll.tryAllocateNode_served cfg g.c s).keptNode h hf hb
  | dealloc i =>
    simp only [GColl.ledger]
    cases hi : g.live[i]? with
    | none =>
      simp only
      rw [List.eraseIdx_of_length_le (List.getElem?_eq_none_iff.mp hi)]
      exact Kept.refl h
    | some as =>
      obtain ⟨a, s⟩ := as
      obtain ⟨l, l', e, x⟩ := h.exchPush cfg hi
      simp only [e]
      exact x.kept h

theorem GColl.run_kept (cfg : Cfg) (e : EnvS) {arr arrLen : Nat} (hf : cfg.fence ≤ 2 ^ 32) (ops : List COpn) :
    ∀ (g : GColl) (k : Nat), CInv arr arrLen g.c g.live → BlocksOk (g.run cfg e k ops).1.c.arena.used →
      Kept arr arrLen g.c g.live (g.run cfg e k ops).1.c (g.run cfg e k ops).1.live := by
  induction ops with
  | nil =>
    intro g k h _
    exact Kept.refl h
  | cons op ops ih =>
    intro g k h hb
    have h1 := GColl.step_kept cfg e g k op h hf (hb.suffix (GColl.run_ext cfg e ops _ _).used)
    exact h1.trans (ih _ _ h1.inv hb)

theorem GCollA.step_ext (cfg : Cfg) (e : EnvS) (g : GCollA) (k : Nat) (op : COpA) : CExt g.c (g.step cfg e k op).1.c := by
  unfold GCollA.step
  cases op with
  | node op => exact GColl.step_ext cfg e ⟨g.c, g.live⟩ k op
  | allocArray count size => exact (Coll.allocateArray_served cfg g.c count size _).ext
  | tryAllocArray count size => exact (Coll.tryAllocateArray_served cfg g.c count size).ext
  | reserve size capacity => exact (Coll.reserveOp_fill cfg g.c size capacity _).grow.ext
  | deallocArray j =>
    simp only
    split
    · exact CExt.refl _
    · split
      · exact CExt.refl _
      · split
        · exact Coll.deallocateArray_ext cfg g.c _ _ _
        · exact CExt.refl _

theorem GCollA.run_ext (cfg : Cfg) (e : EnvS) (ops : List COpA) : ∀ (g : GCollA) (k : Nat), CExt g.c (g.run cfg e k ops).1.c := by
  induction ops with
  | nil =>
    intro g k
    exact CExt.refl _
  | cons op ops ih =>
    intro g k
    exact (GCollA.step_ext cfg e g k op).trans (ih _ _)

/-- contract of an operation: the capacity passed to `reserve` is a `size_t` value -/
def COpA.Fits : COpA → Prop
  | .reserve _ capacity => capacity < 2 ^ 64
  | _ => True

theorem GCollA.step_kept (cfg : Cfg) (e : EnvS) {arr arrLen : Nat} (g : GCollA) (k : Nat) (op : COpA) (hfit : op.Fits)
    (h : CInv arr arrLen g.c g.live) (hf : cfg.fence ≤ 2 ^ 32) (hb : BlocksOk (g.step cfg e k op).1.c.arena.used) :
    Kept arr arrLen g.c g.live (g.step cfg e k op).1.c (g.step cfg e k op).1.live := by
  unfold GCollA.step at hb ⊢
  cases op with
  | node op => exact GColl.step_kept cfg e ⟨g.c, g.live⟩ k op h hf hb
  | allocArray count size => exact (Coll.allocateArray_served cfg g.c count size _).keptRun h hf hb
  | tryAllocArray count size => exact (Coll.tryAllocateArray_served cfg g.c count size).keptRun h hf hb
  | reserve size capacity => exact (Coll.reserveOp_fill cfg g.c size capacity _).kept hfit hf h hb
  | deallocArray j =>
    simp only
    cases hj : g.arrs[j]? with
    | none => exact Kept.refl h
    | some acs =>
      obtain ⟨a, count, size⟩ := acs
      simp only
      cases hl : g.c.lists[g.c.listIndex size]? with
      | none => exact Kept.refl h
      | some l =>
        simp only
        split
        · rename_i hall
          have hsub : ∀ x ∈ arrEntries l.nodeSize a size (arrCells l.nodeSize count size), x ∈ g.live := by
            intro x hx
            have := List.all_eq_true.mp hall x hx
            simpa using this
          obtain ⟨l', e, x⟩ := h.exchPushRun cfg hl hsub
          simp only [e]
          exact x.kept h
        · exact Kept.refl h

theorem GCollA.run_kept (cfg : Cfg) (e : EnvS) {arr arrLen : Nat} (hf : cfg.fence ≤ 2 ^ 32) (ops : List COpA) :
    ∀ (g : GCollA) (k : Nat), (∀ op ∈ ops, op.Fits) → CInv arr arrLen g.c g.live →
      BlocksOk (g.run cfg e k ops).1.c.arena.used →
      Kept arr arrLen g.c g.live (g.run cfg e k ops).1.c (g.run cfg e k ops).1.live := by
  induction ops with
  | nil =>
    intro g k _ h _
    exact Kept.refl h
  | cons op ops ih =>
    intro g k hfit h hb
    have h1 := GCollA.step_kept cfg e g k op (hfit op (by simp)) h hf (hb.suffix (GCollA.run_ext cfg e ops _ _).used)
    exact h1.trans (ih _ _ (fun o ho => hfit o (by simp [ho])) h1.inv hb)

end MemVerif.Model
