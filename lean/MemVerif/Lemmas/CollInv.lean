import MemVerif.Lemmas.AnyList
import MemVerif.Lemmas.Arena
/-!
The invariants of `memory_pool_collection` over the intrusive free lists. The collection keeps an array of free lists at
the start of its first block and a bump pointer `cur` over the current block, from which every bucket's cells are carved.
The caller's ledger `live` is a list of cells `(address, key)`, the key being the size argument that selects the bucket.
C01 is `CInv` (byte ranges: list array, free cells, ledger cells), C04 `Coll.measure`, C02 `Coll.Grid`; between two
states: `CExt`, `Grow`, `Keeps`.
-/
namespace MemVerif.Model
open MemVerif.Gen

/-- byte ranges `(address, length)` do not overlap -/
def RDisj2 (r s : Nat × Nat) : Prop := r.1 + r.2 ≤ s.1 ∨ s.1 + s.2 ≤ r.1

theorem RDisj2.symm {r s : Nat × Nat} (h : RDisj2 r s) : RDisj2 s r := Or.symm h

/-- the ranges are pairwise disjoint, inside used blocks, and those in the top block end at or below `cur` -/
structure RInv (used : List Blk) (cur : Nat) (R : List (Nat × Nat)) : Prop where
  disj : R.Pairwise RDisj2
  inside : ∀ r ∈ R, ∃ b ∈ used, InBlk b r.1 r.2
  below : ∀ b0 rest, used = b0 :: rest → ∀ r ∈ R, InBlk b0 r.1 r.2 → r.1 + r.2 ≤ cur

theorem RInv.perm {used : List Blk} {cur : Nat} {R R' : List (Nat × Nat)} (h : RInv used cur R) (hp : R'.Perm R) :
    RInv used cur R' :=
  ⟨(List.Perm.pairwise_iff RDisj2.symm hp).mpr h.disj, fun r hr => h.inside r (hp.subset hr),
    fun b0 rest hu r hr => h.below b0 rest hu r (hp.subset hr)⟩

/-- node size of the bucket that serves requests of `size` bytes -/
def Coll.nsOf (c : Coll) (size : Nat) : Nat := ((c.lists[c.listIndex size]?).map AnyList.nodeSize).getD 0

def listRanges (l : AnyList) : List (Nat × Nat) := l.cells.map fun x => (x, l.nodeSize)
def cellRanges (lists : List AnyList) : List (Nat × Nat) := lists.flatMap listRanges
def liveRanges (c : Coll) (live : List (Nat × Nat)) : List (Nat × Nat) := live.map fun as => (as.1, c.nsOf as.2)

/-- the list array, every free cell, every live node -/
def collRanges (arr arrLen : Nat) (c : Coll) (live : List (Nat × Nat)) : List (Nat × Nat) :=
  (arr, arrLen) :: (cellRanges c.lists ++ liveRanges c live)

theorem cellRanges_nil_of {lists : List AnyList} (h : ∀ l ∈ lists, l.cells = []) : cellRanges lists = [] := by
  unfold cellRanges
  rw [List.flatMap_eq_nil_iff]
  intro l hl
  unfold listRanges
  rw [h l hl]
  rfl

/-- **The invariant of a collection over intrusive lists** with the list array at `[arr, arr + arrLen)` -/
structure CInv (arr arrLen : Nat) (c : Coll) (live : List (Nat × Nat)) : Prop where
  blocks : BlocksOk c.arena.used
  top : ∃ b0 rest, c.arena.used = b0 :: rest ∧ b0.usable.base ≤ c.cur ∧ c.cur ≤ b0.base + b0.size
  lists : ∀ (i : Nat) (l : AnyList), c.lists[i]? = some l → (∀ P, l.obj ≠ .small P) ∧ l.SInv c.arena.used [] ∧ 0 < l.nodeSize
  proxies : ∀ (i : Nat) (l : AnyList), c.lists[i]? = some l → ∀ B, l.obj = .ordered B → arr ≤ B ∧ B + 16 ≤ arr + arrLen
  rinv : RInv c.arena.used c.cur (collRanges arr arrLen c live)
  liveOk : ∀ as ∈ live, ∃ l, c.lists[c.listIndex as.2]? = some l

theorem Coll.setList_listIndex (c : Coll) (i : Nat) (l : AnyList) (s : Nat) : (c.setList i l).listIndex s = c.listIndex s := rfl

theorem Coll.getElem?_setList {c : Coll} {i : Nat} {l : AnyList} (hl : c.lists[i]? = some l) (l' : AnyList) (k : Nat) :
    (c.setList i l').lists[k]? = if k = i then some l' else c.lists[k]? :=
  List.getElem?_set_of_some hl l' k

theorem Coll.getElem?_setList_self {c : Coll} {i : Nat} {l : AnyList} (hl : c.lists[i]? = some l) (l' : AnyList) :
    (c.setList i l').lists[i]? = some l' := by
  rw [Coll.getElem?_setList hl, if_pos rfl]

theorem Coll.setList_setList (c : Coll) (i : Nat) (l1 l2 : AnyList) : (c.setList i l1).setList i l2 = c.setList i l2 := by
  unfold Coll.setList
  simp only [List.set_set]

theorem Coll.forall_setList {c : Coll} {i : Nat} {l l' : AnyList} (hl : c.lists[i]? = some l) {P : Nat → AnyList → Prop}
    (h : ∀ k m, c.lists[k]? = some m → P k m) (hi : P i l') : ∀ k m, (c.setList i l').lists[k]? = some m → P k m := by
  intro k m hm
  rw [Coll.getElem?_setList hl] at hm
  split at hm
  · rename_i hk
    subst hk
    cases hm
    exact hi
  · exact h k m hm

theorem Coll.forall_mem_setList {c : Coll} {P : AnyList → Prop} (h : ∀ m ∈ c.lists, P m) (i : Nat) {l' : AnyList} (hi : P l') :
    ∀ m ∈ (c.setList i l').lists, P m := by
  intro m hm
  rcases List.mem_or_eq_of_mem_set hm with h1 | rfl
  · exact h m h1
  · exact hi

theorem Coll.nsOf_eq {c : Coll} {s : Nat} {l : AnyList} (hl : c.lists[c.listIndex s]? = some l) : c.nsOf s = l.nodeSize := by
  unfold Coll.nsOf
  rw [hl]
  rfl

theorem Coll.setList_nsOf {c : Coll} {i : Nat} {l l' : AnyList} (hl : c.lists[i]? = some l) (hns : l'.nodeSize = l.nodeSize)
    (s : Nat) : (c.setList i l').nsOf s = c.nsOf s := by
  unfold Coll.nsOf
  rw [Coll.setList_listIndex, Coll.getElem?_setList hl]
  split
  · rename_i hk
    rw [hk, hl]
    exact hns
  · rfl

theorem CInv.setList {arr arrLen : Nat} {c : Coll} {live live' : List (Nat × Nat)} (h : CInv arr arrLen c live) {i : Nat}
    {l l' : AnyList} (hl : c.lists[i]? = some l) (hsame : AnyList.Same l l') (hS : l'.SInv c.arena.used [])
    (hr : RInv c.arena.used c.cur (collRanges arr arrLen (c.setList i l') live'))
    (hlive : ∀ as ∈ live', ∃ m, c.lists[c.listIndex as.2]? = some m) : CInv arr arrLen (c.setList i l') live' := by
  obtain ⟨hint, _, hpos⟩ := h.lists i l hl
  refine ⟨h.blocks, h.top, ?_, ?_, hr, ?_⟩
  · exact Coll.forall_setList hl h.lists ⟨hsame.intr hint, hS, by rw [hsame.ns]; exact hpos⟩
  · exact Coll.forall_setList hl h.proxies (fun B hB => h.proxies i l hl B (by rw [← hsame.obj]; exact hB))
  · intro as has
    rw [Coll.getElem?_setList hl]
    split
    · exact ⟨l', rfl⟩
    · exact hlive as has

theorem collRanges_perm (arr arrLen : Nat) {c : Coll} {i : Nat} {l : AnyList} (hl : c.lists[i]? = some l)
    (live : List (Nat × Nat)) :
    (collRanges arr arrLen c live).Perm
      (listRanges l ++ liveRanges c live ++ (arr, arrLen) :: cellRanges (c.lists.eraseIdx i)) := by
  have hc : (cellRanges c.lists).Perm (listRanges l ++ cellRanges (c.lists.eraseIdx i)) :=
    (List.perm_cons_eraseIdx hl).flatMap_right listRanges
  refine ((hc.append_right _).cons _).trans (List.Perm.trans ?_ List.perm_middle.symm)
  rw [List.append_assoc, List.append_assoc]
  exact (List.perm_append_comm.append_left _).cons _

theorem collRanges_setList (arr arrLen : Nat) {c : Coll} {i : Nat} {l l' : AnyList} (hl : c.lists[i]? = some l)
    (hns : l'.nodeSize = l.nodeSize) {live live' X : List (Nat × Nat)}
    (h : (listRanges l' ++ liveRanges c live').Perm (X ++ (listRanges l ++ liveRanges c live))) :
    (collRanges arr arrLen (c.setList i l') live').Perm (X ++ collRanges arr arrLen c live) := by
  have h' := collRanges_perm arr arrLen (Coll.getElem?_setList_self hl l') live'
  have hlv : liveRanges (c.setList i l') live' = liveRanges c live' :=
    List.map_congr_left fun as _ => by rw [Coll.setList_nsOf hl hns]
  rw [hlv, show (c.setList i l').lists.eraseIdx i = c.lists.eraseIdx i from List.eraseIdx_set_eq] at h'
  refine h'.trans ((h.append_right _).trans ?_)
  rw [List.append_assoc]
  exact (collRanges_perm arr arrLen hl live).symm.append_left X

theorem mem_collRanges_cell {arr arrLen : Nat} {c : Coll} {live : List (Nat × Nat)} {l : AnyList} (hl : l ∈ c.lists) {y : Nat}
    (hy : y ∈ l.cells) : (y, l.nodeSize) ∈ collRanges arr arrLen c live :=
  List.mem_cons_of_mem _ (List.mem_append_left _ (List.mem_flatMap.mpr ⟨l, hl, List.mem_map.mpr ⟨y, hy, rfl⟩⟩))

theorem mem_collRanges_live {arr arrLen : Nat} {c : Coll} {live : List (Nat × Nat)} {as : Nat × Nat} (has : as ∈ live) :
    (as.1, c.nsOf as.2) ∈ collRanges arr arrLen c live :=
  List.mem_cons_of_mem _ (List.mem_append_right _ (List.mem_map.mpr ⟨as, has, rfl⟩))

/-- `rinv.disj` by kind of range -/
theorem CInv.apart {arr arrLen : Nat} {c : Coll} {live : List (Nat × Nat)} (h : CInv arr arrLen c live) :
    (∀ as ∈ live, as.1 + c.nsOf as.2 ≤ arr ∨ arr + arrLen ≤ as.1) ∧
    (∀ l ∈ c.lists, ∀ y ∈ l.cells, ∀ as ∈ live, y + l.nodeSize ≤ as.1 ∨ as.1 + c.nsOf as.2 ≤ y) ∧
    (liveRanges c live).Pairwise RDisj2 := by
  have hd := h.rinv.disj
  unfold collRanges at hd
  rw [List.pairwise_cons, List.pairwise_append] at hd
  obtain ⟨d1, _, d3, d4⟩ := hd
  refine ⟨fun as has => ?_, fun l hl y hy as has => ?_, d3⟩
  · exact (d1 _ (List.mem_append_right _ (List.mem_map.mpr ⟨as, has, rfl⟩))).symm
  · exact d4 _ (List.mem_flatMap.mpr ⟨l, hl, List.mem_map.mpr ⟨y, hy, rfl⟩⟩) _ (List.mem_map.mpr ⟨as, has, rfl⟩)

theorem CInv.live_in {arr arrLen : Nat} {c : Coll} {live : List (Nat × Nat)} (h : CInv arr arrLen c live) {as : Nat × Nat}
    (has : as ∈ live) : ∃ b ∈ c.arena.used, InBlk b as.1 (c.nsOf as.2) :=
  h.rinv.inside _ (mem_collRanges_live has)

theorem CInv.nsOf_pos {arr arrLen : Nat} {c : Coll} {live : List (Nat × Nat)} (h : CInv arr arrLen c live) {as : Nat × Nat}
    (has : as ∈ live) : 0 < c.nsOf as.2 := by
  obtain ⟨l, hl⟩ := h.liveOk as has
  rw [Coll.nsOf_eq hl]
  exact (h.lists _ l hl).2.2

/-- an entry occurring twice would be a non-empty range disjoint from itself -/
theorem CInv.live_nodup {arr arrLen : Nat} {c : Coll} {live : List (Nat × Nat)} (h : CInv arr arrLen c live) : live.Nodup := by
  have hl := h.apart.2.2
  unfold liveRanges at hl
  rw [List.pairwise_map] at hl
  unfold List.Nodup
  refine List.Pairwise.imp_of_mem ?_ hl
  intro x y hx _ hxy he
  subst he
  have := h.nsOf_pos hx
  unfold RDisj2 at hxy
  simp only at hxy
  omega

theorem Coll.blockEnd_cons {c : Coll} {b0 : Blk} {rest : List Blk} (hu : c.arena.used = b0 :: rest) :
    c.blockEnd = some (b0.usable.base + b0.usable.size) := by
  unfold Coll.blockEnd
  rw [Arena.currentBlock_cons hu]
  rfl

theorem CInv.blockEnd {arr arrLen : Nat} {c : Coll} {live : List (Nat × Nat)} (h : CInv arr arrLen c live) :
    ∃ b0 rest, c.arena.used = b0 :: rest ∧ c.blockEnd = some (b0.base + b0.size) ∧ b0.usable.base ≤ c.cur ∧
      c.cur ≤ b0.base + b0.size ∧ b0.base + b0.size ≤ 2 ^ 62 := by
  obtain ⟨b0, rest, hu, t1, t2⟩ := h.top
  have hw := h.blocks.1 b0 (by rw [hu]; simp)
  exact ⟨b0, rest, hu, (Coll.blockEnd_cons hu).trans (congrArg some hw.usable_end), t1, t2, hw.2.2⟩

/-- what no operation changes: the bucket key is kept, and the used blocks only grow -/
structure CExt (c c1 : Coll) : Prop where
  policy : c1.policy = c.policy
  minElem : c1.minElem = c.minElem
  used : c.arena.used <:+ c1.arena.used

theorem CExt.refl (c : Coll) : CExt c c := ⟨rfl, rfl, List.suffix_refl _⟩
theorem CExt.trans {a b c : Coll} (h1 : CExt a b) (h2 : CExt b c) : CExt a c :=
  ⟨h2.policy.trans h1.policy, h2.minElem.trans h1.minElem, h1.used.trans h2.used⟩
theorem CExt.listIndex {c c1 : Coll} (h : CExt c c1) (s : Nat) : c1.listIndex s = c.listIndex s := by
  unfold Coll.listIndex; rw [h.policy, h.minElem]
theorem CExt.setList {c : Coll} {i : Nat} {l : AnyList} : CExt c (c.setList i l) := ⟨rfl, rfl, List.suffix_refl _⟩
theorem CExt.cur {c : Coll} {x : Nat} : CExt c { c with cur := x } := ⟨rfl, rfl, List.suffix_refl _⟩
theorem CExt.block {c : Coll} {a : Arena} {blk : Blk} (hu : a.used = blk :: c.arena.used) {x : Nat} :
    CExt c { c with arena := a, cur := x } := ⟨rfl, rfl, hu ▸ List.suffix_cons _ _⟩
theorem Coll.takeRun_ext (c : Coll) (i : Nat) (l : AnyList) : CExt c (c.setList i l) := CExt.setList

def Coll.AllIntr (c : Coll) : Prop := ∀ l ∈ c.lists, l.Intr

/-- number of free cells of bucket `j` -/
def Coll.cellsAt (c : Coll) (j : Nat) : Nat := ((c.lists[j]?).map fun l => l.cells.length).getD 0

theorem CInv.allIntr {arr arrLen : Nat} {c : Coll} {live : List (Nat × Nat)} (h : CInv arr arrLen c live) : c.AllIntr := by
  intro l hl
  obtain ⟨i, hi⟩ := List.getElem?_of_mem hl
  exact (h.lists i l hi).1

/-- `c1` has the bucket key of `c`, intrusive buckets if `c` has, and no bucket has fewer free cells -/
structure Grow (c c1 : Coll) : Prop where
  ext : CExt c c1
  intr : c.AllIntr → c1.AllIntr
  cells : c.AllIntr → ∀ j, c.cellsAt j ≤ c1.cellsAt j

theorem Grow.refl (c : Coll) : Grow c c := ⟨CExt.refl c, id, fun _ _ => Nat.le_refl _⟩

theorem Grow.trans {a b c : Coll} (h1 : Grow a b) (h2 : Grow b c) : Grow a c :=
  ⟨h1.ext.trans h2.ext, fun h => h2.intr (h1.intr h), fun h j => Nat.le_trans (h1.cells h j) (h2.cells (h1.intr h) j)⟩

theorem Grow.of_lists {c c1 : Coll} (hx : CExt c c1) (hl : c1.lists = c.lists) : Grow c c1 :=
  ⟨hx, fun h => by unfold Coll.AllIntr; rw [hl]; exact h, fun _ j => by unfold Coll.cellsAt; rw [hl]; exact Nat.le_refl _⟩

theorem Coll.cellsAt_setList {c : Coll} {i : Nat} {l : AnyList} (hl : c.lists[i]? = some l) (l' : AnyList) (j : Nat) :
    (c.setList i l').cellsAt j = if j = i then l'.cells.length else c.cellsAt j := by
  unfold Coll.cellsAt
  rw [Coll.getElem?_setList hl]
  split
  · rfl
  · rfl

theorem Coll.cellsAt_eq {c : Coll} {i : Nat} {l : AnyList} (hl : c.lists[i]? = some l) : c.cellsAt i = l.cells.length := by
  unfold Coll.cellsAt; rw [hl]; rfl

theorem Grow.setList {c : Coll} {i : Nat} {l l' : AnyList} (hl : c.lists[i]? = some l)
    (h : l.Intr → l.cells.length ≤ l'.cells.length ∧ l'.Intr) : Grow c (c.setList i l') := by
  refine ⟨CExt.setList, fun ha => Coll.forall_mem_setList ha i (h (ha l (List.mem_of_getElem? hl))).2, fun ha j => ?_⟩
  rw [Coll.cellsAt_setList hl]
  split
  · rename_i hj; subst hj
    rw [Coll.cellsAt_eq hl]
    exact (h (ha l (List.mem_of_getElem? hl))).1
  · exact Nat.le_refl _

theorem Grow.withCur {c c1 : Coll} (h : Grow c c1) (x : Nat) : Grow c { c1 with cur := x } :=
  h.trans (Grow.of_lists CExt.cur rfl)

/-- live nodes served by bucket `j` -/
def Coll.liveAt (c : Coll) (live : List (Nat × Nat)) (j : Nat) : Nat := (live.filter fun as => c.listIndex as.2 == j).length

def Coll.measure (c : Coll) (live : List (Nat × Nat)) (j : Nat) : Nat := c.cellsAt j + c.liveAt live j

theorem Coll.liveAt_ext {c c1 : Coll} (hx : CExt c c1) (live : List (Nat × Nat)) (j : Nat) : c1.liveAt live j = c.liveAt live j := by
  unfold Coll.liveAt
  simp only [hx.listIndex]

theorem Coll.liveAt_append (c : Coll) (A B : List (Nat × Nat)) (j : Nat) : c.liveAt (A ++ B) j = c.liveAt A j + c.liveAt B j := by
  unfold Coll.liveAt
  rw [List.filter_append, List.length_append]

theorem Coll.liveAt_perm (c : Coll) {A B : List (Nat × Nat)} (h : A.Perm B) (j : Nat) : c.liveAt A j = c.liveAt B j :=
  (h.filter _).length_eq

theorem Coll.liveAt_tagged (c : Coll) (cells : List Nat) (s j : Nat) :
    c.liveAt (cells.map fun y => (y, s)) j = if c.listIndex s = j then cells.length else 0 := by
  unfold Coll.liveAt
  rw [List.filter_map]
  by_cases h : c.listIndex s = j
  · simp only [h, Function.comp_def, beq_self_eq_true, List.length_map, if_true]
    rw [List.filter_eq_self.mpr (fun _ _ => rfl)]
  · simp [h, Function.comp_def]

theorem Grow.measure {c c1 : Coll} (h : Grow c c1) (hi : c.AllIntr) (live : List (Nat × Nat)) (j : Nat) :
    c.measure live j ≤ c1.measure live j := by
  unfold Coll.measure
  rw [Coll.liveAt_ext h.ext]
  have := h.cells hi j
  omega

/-- `alignment_for(ns)` -/
def alignOfNs (ns : Nat) : Nat := (alignmentFor (BitVec.ofNat 64 ns)).toNat

/-- an intrusive list with a sane node size whose free cells are all aligned for it -/
structure GridList (l : AnyList) : Prop where
  intr : l.Intr
  pos : 0 < l.nodeSize
  lt : l.nodeSize < 2 ^ 64
  cells : ∀ x ∈ l.cells, alignOfNs l.nodeSize ∣ x

theorem GridList.of_same {l l' : AnyList} (hg : GridList l) (hs : AnyList.Same l l')
    (hc : ∀ x ∈ l'.cells, alignOfNs l.nodeSize ∣ x) : GridList l' :=
  ⟨hs.intr hg.intr, hs.ns ▸ hg.pos, hs.ns ▸ hg.lt, fun x hx => hs.ns ▸ hc x hx⟩

def Coll.GridOk (c : Coll) : Prop := ∀ l ∈ c.lists, GridList l

def Coll.LiveGrid (c : Coll) (live : List (Nat × Nat)) : Prop := ∀ as ∈ live, alignOfNs (c.nsOf as.2) ∣ as.1

/-- `c1` keeps the grid and the node size of every bucket -/
structure Keeps (c c1 : Coll) : Prop where
  grid : c.GridOk → c1.GridOk
  ns : c.GridOk → ∀ s, c1.nsOf s = c.nsOf s

theorem Keeps.refl (c : Coll) : Keeps c c := ⟨id, fun _ _ => rfl⟩
theorem Keeps.trans {a b c : Coll} (h1 : Keeps a b) (h2 : Keeps b c) : Keeps a c :=
  ⟨fun h => h2.grid (h1.grid h), fun h s => (h2.ns (h1.grid h) s).trans (h1.ns h s)⟩

theorem Keeps.of_lists {c c1 : Coll} (hx : CExt c c1) (hl : c1.lists = c.lists) : Keeps c c1 := by
  refine ⟨fun h => by unfold Coll.GridOk; rw [hl]; exact h, fun _ s => ?_⟩
  unfold Coll.nsOf
  rw [hx.listIndex, hl]

theorem Keeps.setList {c : Coll} {i : Nat} {l l' : AnyList} (hl : c.lists[i]? = some l)
    (h : GridList l → GridList l' ∧ l'.nodeSize = l.nodeSize) : Keeps c (c.setList i l') :=
  ⟨fun hg => Coll.forall_mem_setList hg i (h (hg l (List.mem_of_getElem? hl))).1,
    fun hg => Coll.setList_nsOf hl (h (hg l (List.mem_of_getElem? hl))).2⟩

theorem Keeps.withCur {c c1 : Coll} (h : Keeps c c1) (x : Nat) : Keeps c { c1 with cur := x } :=
  h.trans (Keeps.of_lists CExt.cur rfl)

def Coll.Grid (c : Coll) (live : List (Nat × Nat)) : Prop := c.GridOk ∧ c.LiveGrid live

theorem Keeps.gridOf {c c1 : Coll} (h : Keeps c c1) {live : List (Nat × Nat)} (hg : c.Grid live) : c1.Grid live :=
  ⟨h.grid hg.1, fun as has => by rw [h.ns hg.1]; exact hg.2 as has⟩

end MemVerif.Model
