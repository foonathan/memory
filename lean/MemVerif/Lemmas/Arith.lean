import MemVerif.Model.Basic
import MemVerif.Lemmas.Bits
import MemVerif.Lemmas.Util
/-!
The lowest set bit of a 64-bit word (`x & (x-1)`, `x & ~(x-1)`, `is_power_of_two`), from one fact about naturals
(`and_pred_nat`); the model's wrapping `size_t` operations `add64`/`mul64`/`sub64` on `Nat`; `alignOff` in
closed form; the values of the constants of `Model.Basic`.
-/
namespace MemVerif.Arith
open MemVerif.Gen MemVerif.Bits

/-- clearing the lowest set bit on naturals: above bit `j` the numbers `n = 2^j (2q+1)` and `n - 1` agree (both are
`q`), from bit `j` down they are `2^j` and `2^j - 1`, which share no bit -/
theorem and_pred_nat (j q : Nat) : 2 ^ j * (2 * q + 1) &&& (2 ^ j * (2 * q + 1) - 1) = 2 ^ (j + 1) * q := by
  have hp := Nat.two_pow_pos j
  have e : 2 ^ j * (2 * q + 1) = 2 ^ (j + 1) * q + 2 ^ j := by
    rw [Nat.pow_succ, Nat.mul_add, Nat.mul_one, Nat.mul_assoc]
  have hlt : 2 ^ j < 2 ^ (j + 1) := Nat.pow_lt_pow_right (by decide) (Nat.lt_succ_self j)
  have hlt' : 2 ^ j - 1 < 2 ^ (j + 1) := Nat.lt_of_le_of_lt (Nat.sub_le _ _) hlt
  rw [e, Nat.add_sub_assoc hp, ← Nat.div_add_mod (_ &&& _) (2 ^ (j + 1)), Nat.and_div_two_pow, Nat.and_mod_two_pow,
    Nat.mul_add_div (Nat.two_pow_pos _), Nat.mul_add_div (Nat.two_pow_pos _), Nat.mul_add_mod, Nat.mul_add_mod,
    Nat.div_eq_of_lt hlt, Nat.div_eq_of_lt hlt', Nat.and_self, Nat.mod_eq_of_lt hlt, Nat.mod_eq_of_lt hlt',
    Nat.and_two_pow_sub_one_eq_mod, Nat.mod_self]
  rfl

theorem and_pred_toNat (x : BitVec 64) (j q : Nat) (hx : x.toNat = 2 ^ j * (2 * q + 1)) :
    (x &&& (x - 1#64)).toNat = x.toNat - 2 ^ j := by
  have h1 : 1#64 ≤ x := by
    show 1 ≤ x.toNat
    rw [hx]; exact Nat.mul_pos (Nat.two_pow_pos j) (Nat.succ_pos _)
  rw [BitVec.toNat_and, BitVec.toNat_sub_of_le h1, hx]
  show _ &&& (_ - 1) = _
  rw [and_pred_nat, Nat.pow_succ, Nat.mul_add, Nat.mul_one, Nat.add_sub_cancel, Nat.mul_assoc]

theorem lowbit_toNat (x : BitVec 64) (j q : Nat) (hx : x.toNat = 2 ^ j * (2 * q + 1)) :
    (x &&& ~~~(x - 1#64)).toNat = 2 ^ j := by
  have h1 := toNat_and_not_add_and x (x - 1#64)
  have h2 : 2 ^ j ≤ x.toNat := by rw [hx]; exact Nat.le_mul_of_pos_right _ (Nat.succ_pos _)
  rw [and_pred_toNat x j q hx] at h1
  exact Nat.add_right_cancel (h1.trans (Nat.add_sub_of_le h2).symm)

theorem exists_pow_odd (n : Nat) (hn : 0 < n) : ∃ j q, n = 2 ^ j * (2 * q + 1) := by
  induction n using Nat.strongRecOn with
  | _ n ih =>
    rcases Nat.mod_two_eq_zero_or_one n with h | h
    · -- `n` even: one more factor 2 than `n / 2`
      have h2 : n / 2 * 2 = n := Nat.div_mul_cancel (Nat.dvd_of_mod_eq_zero h)
      obtain ⟨j, q, hq⟩ := ih (n / 2) (Nat.div_lt_self hn (by decide)) (Nat.pos_of_mul_pos_right (h2 ▸ hn))
      exact ⟨j + 1, q, by rw [Nat.pow_succ, Nat.mul_right_comm, ← hq, h2]⟩
    · exact ⟨0, n / 2, by rw [Nat.pow_zero, Nat.one_mul, ← h, Nat.div_add_mod]⟩

theorem isPowerOfTwo_iff (x : BitVec 64) (hx : x ≠ 0#64) :
    isPowerOfTwo x = true ↔ ∃ k, x.toNat = 2 ^ k := by
  unfold isPowerOfTwo
  rw [beq_iff_eq, BitVec.toNat_eq]
  constructor
  · intro h
    obtain ⟨j, q, hjq⟩ := exists_pow_odd x.toNat (Nat.pos_of_ne_zero (toNat_ne_zero hx))
    have hle : 2 ^ j ≤ x.toNat := by rw [hjq]; exact Nat.le_mul_of_pos_right _ (Nat.succ_pos _)
    rw [and_pred_toNat x j q hjq] at h
    exact ⟨j, Nat.le_antisymm (Nat.sub_eq_zero_iff_le.mp h) hle⟩
  · rintro ⟨k, hk⟩
    -- `x = 2^k * (2 * 0 + 1)`
    rw [and_pred_toNat x k 0 (by rw [hk, Nat.mul_one]), hk, Nat.sub_self]; rfl

theorem alignOffset_toNat (addr : BitVec 64) {a : BitVec 64} {k : Nat} (h : IsPow a k) :
    (alignOffset addr a).toNat = (2 ^ k - addr.toNat % 2 ^ k) % 2 ^ k := by
  have hm := toNat_and_mask h addr
  have hml := Nat.mod_lt addr.toNat (Nat.two_pow_pos k)
  unfold alignOffset
  by_cases hz : (addr &&& (a - 1#64)) = 0#64
  · rw [hz] at hm
    simp only [hz, bne_self_eq_false, Bool.false_eq_true, ↓reduceIte]
    rw [← hm]
    exact (Nat.mod_self _).symm
  · have hne : addr.toNat % 2 ^ k ≠ 0 := by rw [← hm]; exact toNat_ne_zero hz
    simp only [bne_iff_ne, ne_eq, hz, not_false_eq_true, ↓reduceIte]
    rw [BitVec.toNat_sub_of_le (by show _ ≤ a.toNat; rw [hm, h.toNat]; exact Nat.le_of_lt hml), hm, h.toNat,
      Nat.mod_eq_of_lt (Nat.sub_lt (Nat.two_pow_pos k) (Nat.pos_of_ne_zero hne))]

end MemVerif.Arith

namespace MemVerif.Model
open MemVerif.Bits

theorem add64_mod (a b : Nat) : add64 a b = (a + b) % 2 ^ 64 := by
  unfold add64
  rw [BitVec.toNat_add, BitVec.toNat_ofNat, BitVec.toNat_ofNat, ← Nat.add_mod]

theorem add64_eq {a b : Nat} (h : a + b < 2 ^ 64) : add64 a b = a + b := by
  rw [add64_mod, Nat.mod_eq_of_lt h]

theorem mul64_eq {a b : Nat} (h : a * b < 2 ^ 64) : mul64 a b = a * b := by
  unfold mul64
  rw [BitVec.toNat_mul, BitVec.toNat_ofNat, BitVec.toNat_ofNat, ← Nat.mul_mod, Nat.mod_eq_of_lt h]

theorem mul64_lt (a b : Nat) : mul64 a b < 2 ^ 64 := BitVec.isLt _

theorem mul64_le (a b : Nat) : mul64 a b ≤ a * b := by
  unfold mul64
  rw [BitVec.toNat_mul, BitVec.toNat_ofNat, BitVec.toNat_ofNat]
  exact Nat.le_trans (Nat.mod_le _ _) (Nat.mul_le_mul (Nat.mod_le _ _) (Nat.mod_le _ _))

theorem sub64_eq {a b : Nat} (hb : b ≤ a) (ha : a < 2 ^ 64) : sub64 a b = a - b := by
  unfold sub64
  rw [BitVec.toNat_sub, toNat_ofNat_lt ha, toNat_ofNat_lt (Nat.lt_of_le_of_lt hb ha), sub_wrap hb ha]

/-- a `size_t` difference never exceeds the true one (no bound on `a`: used for block counts) -/
theorem sub64_le {a b : Nat} (h : b ≤ a) : sub64 a b ≤ a - b := by
  obtain ⟨d, rfl⟩ : ∃ d, a = d + b := ⟨a - b, (Nat.sub_add_cancel h).symm⟩
  unfold sub64
  rw [BitVec.ofNat_add, BitVec.add_sub_cancel, Nat.add_sub_cancel, BitVec.toNat_ofNat]
  exact Nat.mod_le _ _

theorem isPow_ofNat {k : Nat} (hk : k < 64) : IsPow (BitVec.ofNat 64 (2 ^ k)) k :=
  ⟨hk, toNat_ofNat_lt (two_pow_lt hk)⟩

theorem alignOff_eq (addr k : Nat) (hk : k < 64) (ha : addr < 2 ^ 64) :
    alignOff addr (2 ^ k) = (2 ^ k - addr % 2 ^ k) % 2 ^ k := by
  unfold alignOff
  rw [Arith.alignOffset_toNat _ (isPow_ofNat hk), toNat_ofNat_lt ha]

theorem alignOff_spec (addr k : Nat) (hk : k < 64) (ha : addr < 2 ^ 64) :
    (addr + alignOff addr (2 ^ k)) % 2 ^ k = 0 ∧ alignOff addr (2 ^ k) < 2 ^ k := by
  rw [alignOff_eq addr k hk ha]
  exact ⟨(Nat.alignUp_least addr (Nat.two_pow_pos k)).1, (Nat.alignUp_least addr (Nat.two_pow_pos k)).2.1⟩

theorem implOff_eq : implOff = 16 := by decide

theorem maxAlign_eq : maxAlign = 2 ^ 4 := by decide

end MemVerif.Model
