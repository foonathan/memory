import MemVerif.Lemmas.CollInv
import MemVerif.Lemmas.StackArith
import MemVerif.Lemmas.GrowCap
import MemVerif.Props.C19
/-!
Memory moves from the current block to the buckets, the caller's ledger is not involved: `insert_rest`,
`try_reserve_memory`, `reserve_memory`, the refill of an empty bucket, `reserve`. `Fill` lists the moves as the code
makes them; each operation is a `Fill` by taking its code apart once. The bucket key, the blocks and the cell counts
follow from the moves alone (`Fill.grow`), the byte-range invariant and the grid when the sizes carved are `size_t`
values (`Fill.spec`). The grid is kept because what a bucket is given starts at a `max_alignment` boundary
(`FreshRegion`), its cells are at multiples of the node size from there, and `alignment_for(ns)` divides both.
-/
namespace MemVerif.Model
open MemVerif.Props

theorem blockNodes_aligned {m ns k x : Nat} (h0 : 0 < ns) (hlt : ns < 2 ^ 64) (hm : 16 ∣ m) (hx : x ∈ blockNodes m ns k) :
    alignOfNs ns ∣ x := by
  obtain ⟨j, _, rfl⟩ := mem_blockNodes.mp hx
  obtain ⟨d1, d2⟩ := C19.alignmentFor_dvd ns h0 hlt
  exact Nat.dvd_add (Nat.dvd_trans d2 hm) (Nat.dvd_mul_left_of_dvd d1 j)

theorem AnyList.insert_grid {cfg : Cfg} {l l' : AnyList} (hg : GridList l) {m s : Nat} (hm : 16 ∣ m)
    (h : l.insert cfg m s = .ok l') : GridList l' ∧ l'.nodeSize = l.nodeSize := by
  obtain ⟨hp, hsame, _⟩ := AnyList.insert_cells cfg hg.intr h
  refine ⟨hg.of_same hsame fun x hx => ?_, hsame.ns⟩
  rcases List.mem_append.mp (hp.subset hx) with hx | hx
  · exact blockNodes_aligned hg.pos hg.lt hm hx
  · exact hg.cells x hx

theorem Grow.insert {cfg : Cfg} {c : Coll} {i : Nat} {l l' : AnyList} (hl : c.lists[i]? = some l) {m s : Nat}
    (hins : l.insert cfg m s = .ok l') : Grow c (c.setList i l') :=
  Grow.setList hl fun hi => by
    obtain ⟨hp, hsame, _⟩ := AnyList.insert_cells cfg hi hins
    rw [hp.length_eq, List.length_append]
    exact ⟨Nat.le_add_left _ _, hsame.intr hi⟩

theorem Keeps.insert {cfg : Cfg} {c : Coll} {i : Nat} {l l' : AnyList} (hl : c.lists[i]? = some l) {m s : Nat} (hm : 16 ∣ m)
    (hins : l.insert cfg m s = .ok l') : Keeps c (c.setList i l') :=
  Keeps.setList hl fun hg => AnyList.insert_grid hg hm hins

/-- everything the collection tracks ends below `cur` in the current block or lies in another block: a region of the
current block at or above `cur` is apart from all of it -/
theorem RInv.fresh {used : List Blk} {cur : Nat} {R : List (Nat × Nat)} (h : RInv used cur R) (hb : BlocksOk used)
    {b0 : Blk} {rest : List Blk} (hu : used = b0 :: rest) {p len : Nat} (hp : cur ≤ p) (hin : InBlk b0 p len) :
    ∀ r ∈ R, r.1 + r.2 ≤ p ∨ p + len ≤ r.1 := by
  intro r hr
  obtain ⟨b, hbm, hr'⟩ := h.inside r hr
  rcases hb.2.eq_or_rel Blk.Disj.symm hbm (hu ▸ List.mem_cons_self) with rfl | hd
  · exact Or.inl (Nat.le_trans (h.below b rest hu r hr hr') hp)
  · exact (hd.inBlk hr' hin).imp (Nat.le_trans (Nat.le_add_right _ _)) (Nat.le_trans (Nat.le_add_right _ _))

theorem RInv.addFree {used : List Blk} {cur : Nat} {R : List (Nat × Nat)} (h : RInv used cur R)
    {b0 : Blk} {rest : List Blk} (hu : used = b0 :: rest) {p ns k : Nat}
    (hfresh : ∀ r ∈ R, r.1 + r.2 ≤ p ∨ p + k * ns ≤ r.1)
    (hlo : b0.base + implOff ≤ p) (hhi : p + k * ns ≤ cur) (hc : cur ≤ b0.base + b0.size) :
    RInv used cur ((blockNodes p ns k).map (fun x => (x, ns)) ++ R) := by
  have hin : ∀ x ∈ blockNodes p ns k, p ≤ x ∧ x + ns ≤ p + k * ns := fun x hx => blockNodes_bounds hx
  refine ⟨?_, ?_, ?_⟩
  · rw [List.pairwise_append]
    refine ⟨?_, h.disj, ?_⟩
    · rw [List.pairwise_map]
      exact (blockNodes_pairwise p ns k).imp fun hab => hab  -- `Apart ns a b` is `RDisj2 (a, ns) (b, ns)` unfolded
    · intro r hr s hs
      obtain ⟨x, hx, rfl⟩ := List.mem_map.mp hr
      exact (hfresh s hs).symm.imp (Nat.le_trans (hin x hx).2) (fun h2 => Nat.le_trans h2 (hin x hx).1)
  · intro r hr
    rcases List.mem_append.mp hr with hr | hr
    · obtain ⟨x, hx, rfl⟩ := List.mem_map.mp hr
      exact ⟨b0, by rw [hu]; simp, Nat.le_trans hlo (hin x hx).1, Nat.le_trans (hin x hx).2 (Nat.le_trans hhi hc)⟩
    · exact h.inside r hr
  · intro b0' rest' hu' r hr hib
    rcases List.mem_append.mp hr with hr | hr
    · obtain ⟨x, hx, rfl⟩ := List.mem_map.mp hr
      exact Nat.le_trans (hin x hx).2 hhi
    · exact h.below b0' rest' hu' r hr hib

/-- **A fresh region of the current block**, as `fixed_memory_stack::allocate(size, max_alignment)` and `insert_rest`
cut it off (`CInv.carved`, `CInv.rested`); `cur'` is the bump pointer afterwards. -/
structure FreshRegion (c : Coll) (p size cur' : Nat) : Prop where
  aligned : 16 ∣ p
  above : c.cur ≤ p
  below : p + size ≤ cur'
  inTop : ∃ b0 rest, c.arena.used = b0 :: rest ∧ b0.usable.base ≤ p ∧ cur' ≤ b0.base + b0.size

section
variable {arr arrLen : Nat} {c : Coll} {live : List (Nat × Nat)}

theorem CInv.withCur (h : CInv arr arrLen c live) {p size cur' : Nat} (f : FreshRegion c p size cur') :
    CInv arr arrLen { c with cur := cur' } live := by
  obtain ⟨b0, rest, hu, hlo, hhi⟩ := f.inTop
  have hp : p ≤ cur' := Nat.le_trans (Nat.le_add_right _ _) f.below
  have h1 : c.cur ≤ cur' := Nat.le_trans f.above hp
  exact ⟨h.blocks, ⟨b0, rest, hu, Nat.le_trans hlo hp, hhi⟩, h.lists, h.proxies,
    ⟨h.rinv.disj, h.rinv.inside, fun b0 rest hu r hr hi => Nat.le_trans (h.rinv.below b0 rest hu r hr hi) h1⟩, h.liveOk⟩

theorem CInv.insert {cfg : Cfg} (h : CInv arr arrLen c live) {i : Nat} {l l' : AnyList} (hl : c.lists[i]? = some l)
    {p size cur' : Nat} (f : FreshRegion c p size cur') (hins : l.insert cfg p size = .ok l') :
    CInv arr arrLen { (c.setList i l') with cur := cur' } live := by
  obtain ⟨b0, rest, hu, hlo, hc'⟩ := f.inTop
  have hin : InBlk b0 p size := ⟨hlo, Nat.le_trans f.below hc'⟩
  obtain ⟨hint, hS, _⟩ := h.lists i l hl
  have hdiv : p + size / l.nodeSize * l.nodeSize ≤ p + size := Nat.add_le_add_left (Nat.div_mul_le_self size l.nodeSize) p
  -- nothing tracked overlaps the region: not the bucket's cells, not its proxy words
  have hfresh := h.rinv.fresh h.blocks hu f.above hin
  have hap : l.CellsApart p (size / l.nodeSize) := fun y hy =>
    (hfresh _ (mem_collRanges_cell (List.mem_of_getElem? hl) hy)).imp id (Nat.le_trans hdiv)
  have hout : AnyList.OutObj l.obj p size := by
    cases hobj : l.obj with
    | unordered => trivial
    | small P => exact absurd hobj (hint P)
    | ordered B =>
      obtain ⟨p1, p2⟩ := h.proxies i l hl B hobj
      exact (hfresh (arr, arrLen) (List.mem_cons_self ..)).symm.imp (fun h1 => Nat.le_trans h1 p1) (Nat.le_trans p2)
  obtain ⟨hperm, hsame, _⟩ := AnyList.insert_cells cfg hint hins
  have hS' := AnyList.insert_region cfg hint hS hap hout hin.pos hins
  have h' := h.withCur f
  refine h'.setList (c := { c with cur := cur' }) hl hsame hS' ?_ h.liveOk
  have hadd := h'.rinv.addFree hu (p := p) (ns := l.nodeSize) (k := size / l.nodeSize)
    (fun r hr => (hfresh r hr).imp id (Nat.le_trans hdiv)) hlo (Nat.le_trans hdiv f.below) hc'
  refine hadd.perm (collRanges_setList arr arrLen (c := { c with cur := cur' }) hl hsame.ns ?_)
  rw [← List.append_assoc]
  refine List.Perm.append_right _ ?_
  unfold listRanges
  rw [hsame.ns, ← List.map_append]
  exact hperm.map _

/-- a new block on top: everything tracked lies in older blocks -/
theorem CInv.newBlock (h : CInv arr arrLen c live) {a : Arena}
    {blk : Blk} (hu : a.used = blk :: c.arena.used) (hb : BlocksOk a.used) :
    CInv arr arrLen { c with arena := a, cur := blk.usable.base } live := by
  have hw := hb.1 blk (by rw [hu]; simp)
  have hd : ∀ b ∈ c.arena.used, blk.Disj b := (List.pairwise_cons.mp (hu ▸ hb.2)).1
  have hsub : ∀ b ∈ c.arena.used, b ∈ a.used := fun b hbm => hu ▸ List.mem_cons_of_mem _ hbm
  refine ⟨hb, ⟨blk, c.arena.used, hu, Nat.le_refl _, Nat.add_le_add_left hw.2.1 _⟩, ?_, h.proxies, ?_, h.liveOk⟩
  · intro i l hl
    obtain ⟨x1, x2, x3⟩ := h.lists i l hl
    exact ⟨x1, x2.mono hsub, x3⟩
  · refine ⟨h.rinv.disj, fun r hr => ?_, ?_⟩
    · obtain ⟨b, hbm, hin⟩ := h.rinv.inside r hr
      exact ⟨b, hsub b hbm, hin⟩
    · intro b0' rest' hu' r hr hib
      obtain ⟨rfl, rfl⟩ := List.cons.inj (hu.symm.trans hu')
      obtain ⟨b, hbm, hin⟩ := h.rinv.inside r hr
      -- a range inside an older block is not inside the new one
      have := (hd b hbm).inBlk hib hin
      rw [implOff_eq] at this
      omega

/-- `fixed_memory_stack::allocate(cap, max_alignment)` under the invariant -/
theorem CInv.carved {cfg : Cfg} (h : CInv arr arrLen c live) (hf : cfg.fence ≤ 2 ^ 32) {e cap p cur' : Nat}
    (he : c.blockEnd = some e) (hcap : cap < 2 ^ 64) (hfa : fixedAllocate c.cur e cap maxAlign cfg.fence = some (p, cur')) :
    FreshRegion c p cap cur' := by
  obtain ⟨b0, rest, hu, hbe, t1, t2, t3⟩ := h.blockEnd
  rw [hbe] at he
  cases he
  rw [maxAlign_eq] at hfa
  obtain ⟨f1, f2, f3, f4⟩ := fixedAllocate_in (k := 4) (by decide) t2 t3 hcap hf hfa
  exact ⟨f1, f2, f3, b0, rest, hu, Nat.le_trans t1 f2, f4⟩

/-- the region `insert_rest` hands over, under the invariant -/
theorem CInv.rested (h : CInv arr arrLen c live) {e : Nat} (he : c.blockEnd = some e)
    (hlt : alignOff c.cur maxAlign < sub64 e c.cur) :
    FreshRegion c (c.cur + alignOff c.cur maxAlign) (sub64 e c.cur - alignOff c.cur maxAlign) (c.cur + sub64 e c.cur) := by
  obtain ⟨b0, rest, hu, hbe, t1, t2, t3⟩ := h.blockEnd
  rw [hbe] at he
  cases he
  have he64 : b0.base + b0.size < 2 ^ 64 := Nat.lt_of_le_of_lt t3 (by decide)
  rw [sub64_eq t2 he64, maxAlign_eq] at hlt ⊢
  have ha := (alignOff_spec c.cur 4 (by decide) (Nat.lt_of_le_of_lt t2 he64)).1
  refine ⟨Nat.dvd_of_mod_eq_zero ha, Nat.le_add_right _ _, ?_, b0, rest, hu, Nat.le_trans t1 (Nat.le_add_right _ _), ?_⟩
  · rw [Nat.add_assoc, Nat.add_sub_cancel' (Nat.le_of_lt hlt)]
    exact Nat.le_refl _
  · exact Nat.le_of_eq (Nat.add_sub_cancel' t2)

end

/-- **Memory moves to the buckets**, by the moves of the code; the sizes carved from a block are `size_t` values if `S`
holds (so that what needs no bound is had without one: `Fill.grow`). -/
inductive Fill (cfg : Cfg) (S : Prop) : Coll → Coll → Prop
  | refl (c : Coll) : Fill cfg S c c
  | trans {a b c : Coll} : Fill cfg S a b → Fill cfg S b c → Fill cfg S a c
  /-- `fixed_memory_stack::allocate(cap, max_alignment)` on the current block -/
  | carve {c : Coll} {e cap p cur' : Nat} : c.blockEnd = some e → (S → cap < 2 ^ 64) →
      fixedAllocate c.cur e cap maxAlign cfg.fence = some (p, cur') → Fill cfg S c { c with cur := cur' }
  /-- … and the carved memory is inserted into bucket `i` -/
  | insert {c : Coll} {e cap p cur' i : Nat} {l l' : AnyList} : c.blockEnd = some e → (S → cap < 2 ^ 64) →
      fixedAllocate c.cur e cap maxAlign cfg.fence = some (p, cur') → c.lists[i]? = some l → l.insert cfg p cap = .ok l' →
      Fill cfg S c { (c.setList i l') with cur := cur' }
  /-- `insert_rest`: what is left of the current block, from the next `max_alignment` boundary on, goes to bucket `i` -/
  | rest {c : Coll} {e i : Nat} {l l' : AnyList} : c.blockEnd = some e → c.lists[i]? = some l →
      alignOff c.cur maxAlign < sub64 e c.cur →
      l.insert cfg (c.cur + alignOff c.cur maxAlign) (sub64 e c.cur - alignOff c.cur maxAlign) = .ok l' →
      Fill cfg S c { (c.setList i l') with cur := c.cur + sub64 e c.cur }
  | block {c : Coll} {a : Arena} {blk : Blk} : a.used = blk :: c.arena.used →
      Fill cfg S c { c with arena := a, cur := blk.usable.base }

theorem Fill.grow {cfg : Cfg} {S : Prop} {c c1 : Coll} (hF : Fill cfg S c c1) : Grow c c1 := by
  induction hF with
  | refl c => exact Grow.refl c
  | trans _ _ ih1 ih2 => exact ih1.trans ih2
  | carve _ _ _ => exact Grow.of_lists CExt.cur rfl
  | insert _ _ _ hl hins => exact (Grow.insert hl hins).withCur _
  | rest _ hl _ hins => exact (Grow.insert hl hins).withCur _
  | block hu => exact Grow.of_lists (CExt.block hu) rfl

theorem Fill.spec {cfg : Cfg} {S : Prop} {c c1 : Coll} (hF : Fill cfg S c c1) (hS : S) (hf : cfg.fence ≤ 2 ^ 32)
    {arr arrLen : Nat} {live : List (Nat × Nat)} (h : CInv arr arrLen c live) (hb : BlocksOk c1.arena.used) : CInv arr arrLen c1 live ∧ Keeps c c1 := by
  induction hF with
  | refl c => exact ⟨h, Keeps.refl c⟩
  | trans _ h2 ih1 ih2 =>
    obtain ⟨i1, k1⟩ := ih1 h (hb.suffix h2.grow.ext.used)
    obtain ⟨i2, k2⟩ := ih2 i1 hb
    exact ⟨i2, k1.trans k2⟩
  | carve he hcap hfa =>
    have f := h.carved hf he (hcap hS) hfa
    exact ⟨h.withCur f, Keeps.of_lists CExt.cur rfl⟩
  | insert he hcap hfa hl hins =>
    have f := h.carved hf he (hcap hS) hfa
    exact ⟨h.insert hl f hins, (Keeps.insert hl f.aligned hins).withCur _⟩
  | rest he hl hlt hins =>
    have f := h.rested he hlt
    exact ⟨h.insert hl f hins, (Keeps.insert hl f.aligned hins).withCur _⟩
  | block hu => exact ⟨h.newBlock hu hb, Keeps.of_lists (CExt.block hu) rfl⟩

theorem Coll.insertRest_fill {cfg : Cfg} {S : Prop} {c c1 : Coll} {i : Nat} (h : c.insertRest cfg i = some c1) :
    Fill cfg S c c1 := by
  unfold Coll.insertRest at h
  split at h
  · rename_i e l he hl
    by_cases h0 : sub64 e c.cur = 0
    · rw [if_pos h0] at h
      cases h
      exact Fill.refl _
    · rw [if_neg h0] at h
      simp only at h
      split at h
      · rename_i hcond
        simp only [Bool.and_eq_true, decide_eq_true_eq] at hcond
        split at h
        · rename_i l' hins
          cases h
          exact Fill.rest he hl hcond.1 hins
        · cases h
      · cases h
        exact Fill.refl _
  · cases h

theorem Coll.tryReserve_fill {cfg : Cfg} {S : Prop} {c c1 : Coll} {i cap : Nat} (hcap : S → cap < 2 ^ 64)
    (h : c.tryReserve cfg i cap = some c1) : Fill cfg S c c1 := by
  unfold Coll.tryReserve at h
  split at h
  · rename_i e l he hl
    split at h
    · exact Coll.insertRest_fill h
    · rename_i p cur' hfa
      split at h
      · rename_i l' hins
        cases h
        exact Fill.insert he hcap hfa hl hins
      · cases h
  · cases h

/-- `reserve_memory(pool, cap)` makes room if it has to (`insert_rest`, a new block), then carves. It answers `done`
exactly when it returns memory, and never an address or `nullptr`. -/
theorem Coll.reserve_spec {cfg : Cfg} {S : Prop} {c : Coll} {i cap : Nat} {env : List (Option Nat)}
    {r : PRes Coll} {om : Option Nat} (h : c.reserve cfg i cap env = (r, om)) :
    ∃ c2, Fill cfg S c c2 ∧ (∀ a, r.out ≠ .ok a) ∧ r.out ≠ .null ∧
      match om with
      | none => r.st = c2 ∧ r.out ≠ .done
      | some mem => ∃ e cur', c2.blockEnd = some e ∧ fixedAllocate c2.cur e cap maxAlign cfg.fence = some (mem, cur') ∧
          r.st = { c2 with cur := cur' } := by
  unfold Coll.reserve at h
  split at h
  · cases h
    exact ⟨c, Fill.refl _, nofun, nofun, rfl, nofun⟩
  · rename_i e he
    split at h
    · rename_i p cur' hfa
      cases h
      exact ⟨c, Fill.refl _, nofun, nofun, e, cur', he, hfa, rfl⟩
    · split at h
      · cases h
        exact ⟨c, Fill.refl _, nofun, nofun, rfl, nofun⟩
      · rename_i c1 hr
        have h1 : Fill cfg S c c1 := Coll.insertRest_fill hr
        split at h
        · cases h
          exact ⟨c1, h1, nofun, nofun, rfl, nofun⟩
        · rename_i a ex ev _ ha
          cases h
          -- a failed upstream request leaves the arena as it was
          obtain ⟨rfl, _⟩ := Arena.allocateBlock_fail ha
          exact ⟨c1, h1, nofun, nofun, rfl, nofun⟩
        · rename_i a b ev _ ha
          obtain ⟨_, blk, hu, rfl⟩ := Arena.allocateBlock_ok ha
          have h2 := h1.trans (Fill.block (cfg := cfg) (S := S) hu)
          have he2 : Coll.blockEnd { c1 with arena := a, cur := blk.usable.base } = some (blk.usable.base + blk.usable.size) :=
            Coll.blockEnd_cons hu
          simp only at h
          split at h
          · rename_i p cur' hfa
            cases h
            exact ⟨_, h2, nofun, nofun, _, cur', he2, hfa, rfl⟩
          · cases h
            exact ⟨_, h2, nofun, nofun, rfl, nofun⟩

theorem Coll.reserve_ne_ok {cfg : Cfg} {c : Coll} {i cap : Nat} {env : List (Option Nat)} {r : PRes Coll} {om : Option Nat}
    (h : c.reserve cfg i cap env = (r, om)) (a : Nat) : r.out ≠ .ok a := by
  obtain ⟨_, _, hne, _⟩ := Coll.reserve_spec (S := True) h
  exact hne a

theorem Coll.reserve_fill_st {cfg : Cfg} {S : Prop} {c : Coll} {i cap : Nat} (hcap : S → cap < 2 ^ 64) {env : List (Option Nat)}
    {r : PRes Coll} {om : Option Nat} (h : c.reserve cfg i cap env = (r, om)) : Fill cfg S c r.st := by
  obtain ⟨c2, h2, _, _, hm⟩ := Coll.reserve_spec h
  cases om with
  | none =>
    rw [hm.1]
    exact h2
  | some mem =>
    obtain ⟨e, cur', he, hfa, hst⟩ := hm
    rw [hst]
    exact h2.trans (Fill.carve he hcap hfa)

theorem Coll.reserve_insert_fill {cfg : Cfg} {S : Prop} {c : Coll} {i cap : Nat} (hcap : S → cap < 2 ^ 64) {env : List (Option Nat)}
    {r : PRes Coll} {mem : Nat} (h : c.reserve cfg i cap env = (r, some mem)) {l1 l2 : AnyList}
    (hl1 : r.st.lists[i]? = some l1) (hins : l1.insert cfg mem cap = .ok l2) : Fill cfg S c (r.st.setList i l2) := by
  obtain ⟨c2, h2, _, _, e, cur', he, hfa, hst⟩ := Coll.reserve_spec h
  rw [hst] at hl1 ⊢
  exact h2.trans (Fill.insert he hcap hfa hl1 hins)

theorem Coll.refill_fill (cfg : Cfg) {S : Prop} (c : Coll) (i : Nat) {dc : Nat} (hdc : S → dc < 2 ^ 64) (env : List (Option Nat)) :
    Fill cfg S c (c.refill cfg i dc env).st := by
  unfold Coll.refill
  split
  · rename_i r mem hres
    have hc := Coll.reserve_fill_st hdc hres
    split
    · rename_i l1 hl1
      split
      · rename_i l2 hins
        exact Coll.reserve_insert_fill hdc hres hl1 hins
      · exact hc
      · exact hc
    · exact hc
  · rename_i r hres
    exact Coll.reserve_fill_st hdc hres

theorem Coll.reserveOp_fill (cfg : Cfg) (c : Coll) (size capacity : Nat) (env : List (Option Nat)) :
    Fill cfg (capacity < 2 ^ 64) c (c.reserveOp cfg size capacity env).st := by
  unfold Coll.reserveOp
  simp only
  split
  · exact Fill.refl _
  · rename_i l _
    exact Coll.refill_fill cfg c _ (growCapacity_lt l 64 capacity) env

theorem Coll.refill_out (cfg : Cfg) (c : Coll) (i dc : Nat) (env : List (Option Nat)) :
    (∀ a, (c.refill cfg i dc env).out ≠ .ok a) ∧ (c.refill cfg i dc env).out ≠ .null ∧
    ((c.refill cfg i dc env).out = .done → ∃ r mem l1 l2, c.reserve cfg i dc env = (r, some mem) ∧
      r.st.lists[i]? = some l1 ∧ l1.insert cfg mem dc = .ok l2 ∧ (c.refill cfg i dc env).st = r.st.setList i l2) := by
  unfold Coll.refill
  split
  · rename_i r mem hres
    obtain ⟨_, _, h2, h3, _⟩ := Coll.reserve_spec (S := True) hres
    split
    · rename_i l1 hl1
      split
      · rename_i l2 hins
        exact ⟨h2, h3, fun _ => ⟨r, mem, l1, l2, hres, hl1, hins, rfl⟩⟩
      · exact ⟨nofun, nofun, nofun⟩
      · exact ⟨nofun, nofun, nofun⟩
    · exact ⟨nofun, nofun, nofun⟩
  · rename_i r hres
    obtain ⟨_, _, h2, h3, _, h4⟩ := Coll.reserve_spec (S := True) hres
    exact ⟨h2, h3, fun hd => absurd hd h4⟩

theorem Coll.refill_gains {cfg : Cfg} {c : Coll} (hi : c.AllIntr) {i dc : Nat} {env : List (Option Nat)}
    (hd : (c.refill cfg i dc env).out = .done) : c.cellsAt i + 1 ≤ (c.refill cfg i dc env).st.cellsAt i := by
  obtain ⟨r, mem, l1, l2, hres, hl1, hins, hst⟩ := (Coll.refill_out cfg c i dc env).2.2 hd
  -- `Fill.grow` asks nothing of `S`, so the size bound is taken under `False`
  have hg : Grow c r.st := (Coll.reserve_fill_st (S := False) False.elim hres).grow
  obtain ⟨hp, _, hk⟩ := AnyList.insert_cells cfg (hg.intr hi l1 (List.mem_of_getElem? hl1)) hins
  have := hg.cells hi i
  rw [Coll.cellsAt_eq hl1] at this
  rw [hst, Coll.cellsAt_setList hl1, if_pos rfl, hp.length_eq, List.length_append, blockNodes_length]
  omega

/-- refilling an empty bucket keeps the invariant, whatever the outcome -/
theorem CInv.refill (cfg : Cfg) {arr arrLen : Nat} {c : Coll} {live : List (Nat × Nat)} (h : CInv arr arrLen c live)
    (hf : cfg.fence ≤ 2 ^ 32) (i : Nat) {dc : Nat} (hdc : dc < 2 ^ 64) (env : List (Option Nat))
    (hb : BlocksOk (c.refill cfg i dc env).st.arena.used) : CInv arr arrLen (c.refill cfg i dc env).st live :=
  ((Coll.refill_fill cfg c i (fun _ : True => hdc) env).spec trivial hf h hb).1

end MemVerif.Model
