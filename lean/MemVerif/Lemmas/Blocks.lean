import MemVerif.Model.PoolRun
import MemVerif.Lemmas.Cells
import MemVerif.Lemmas.Arith
/-!
The vocabulary of the pool invariants: blocks that do not overlap (`BlocksOk`), ranges inside the usable part of a block
(`InBlk`), the cells of the live allocations (`liveCells`). The arena's header keeps ranges of different blocks from
touching, so a run of consecutive cells that each lie in some block lies in one (`run_in_block`). Taking a run from the
free cells into the ledger, or giving one back, leaves free and live cells together the same cells (`liveCells_take`,
`liveCells_give`). `ListInv` is the invariant of the unordered list as `Props/C01` states it (`CellInv` plus `cap`).
-/
namespace MemVerif.Model

def Blk.Disj (b c : Blk) : Prop := b.base + b.size ≤ c.base ∨ c.base + c.size ≤ b.base

theorem Blk.Disj.symm {b c : Blk} (h : b.Disj c) : c.Disj b := Or.symm h

instance (b c : Blk) : Decidable (b.Disj c) := by unfold Blk.Disj; exact inferInstance
instance (b : Blk) : Decidable b.Wf := by unfold Blk.Wf; exact inferInstance

/-- The environment's obligation (EnvOk) on a list of blocks: each is well formed (non-null, holds the arena's
header, below 2^62) and no two overlap. -/
def BlocksOk (used : List Blk) : Prop := (∀ b ∈ used, b.Wf) ∧ used.Pairwise Blk.Disj

instance (used : List Blk) : Decidable (BlocksOk used) := by unfold BlocksOk; exact inferInstance

theorem BlocksOk.sublist {l l' : List Blk} (h : BlocksOk l') (hs : l.Sublist l') : BlocksOk l :=
  ⟨fun b hb => h.1 b (hs.subset hb), h.2.sublist hs⟩

theorem BlocksOk.suffix {u u' : List Blk} (h : BlocksOk u') (hs : u <:+ u') : BlocksOk u :=
  h.sublist hs.sublist

theorem BlocksOk.perm {l l' : List Blk} (h : BlocksOk l) (p : l.Perm l') : BlocksOk l' :=
  ⟨fun b hb => h.1 b (p.mem_iff.mpr hb), (List.Perm.pairwise_iff Blk.Disj.symm p).mp h.2⟩

/-- the byte range `[a, a + len)` lies in the usable part of the block (after the arena's header) -/
def InBlk (b : Blk) (a len : Nat) : Prop := b.base + implOff ≤ a ∧ a + len ≤ b.base + b.size

instance (b : Blk) (a len : Nat) : Decidable (InBlk b a len) := by unfold InBlk; exact inferInstance

theorem InBlk.pos {b : Blk} {a len : Nat} (h : InBlk b a len) : 0 < a :=
  Nat.lt_of_lt_of_le (Nat.lt_of_lt_of_le (by decide : 0 < implOff) (Nat.le_add_left _ _)) h.1

theorem Blk.usable_size (base s : Nat) : (Blk.usable ⟨base, implOff + s⟩).size = s := by
  unfold Blk.usable; simp

theorem Blk.usable_base (base s : Nat) : (Blk.usable ⟨base, s⟩).base = base + 16 := by
  unfold Blk.usable; simp [implOff_eq]

theorem Blk.Wf.usable_end {b : Blk} (hw : b.Wf) : b.usable.base + b.usable.size = b.base + b.size :=
  (Nat.add_assoc ..).trans (congrArg _ (Nat.add_sub_cancel' hw.2.1))

theorem inBlk_iff_usable {b : Blk} (hw : b.Wf) {a len : Nat} :
    InBlk b a len ↔ b.usable.base ≤ a ∧ a + len ≤ b.usable.base + b.usable.size := by
  rw [hw.usable_end]
  exact Iff.rfl

/-- the arena's header keeps ranges inside the usable parts of two blocks from touching -/
theorem Blk.Disj.inBlk {b c : Blk} (hd : b.Disj c) {a len a' len' : Nat} (h1 : InBlk b a len) (h2 : InBlk c a' len') :
    a + len + implOff ≤ a' ∨ a' + len' + implOff ≤ a :=
  hd.imp (fun hd => Nat.le_trans (Nat.add_le_add_right (Nat.le_trans h1.2 hd) _) h2.1)
    (fun hd => Nat.le_trans (Nat.add_le_add_right (Nat.le_trans h2.2 hd) _) h1.1)

theorem BlocksOk.cons_apart {b c : Blk} {used : List Blk} (hb : BlocksOk (b :: used)) (hc : c ∈ used)
    {a len a' len' : Nat} (h : InBlk b a len) (h' : InBlk c a' len') : a + len ≤ a' ∨ a' + len' ≤ a :=
  (((List.pairwise_cons.mp hb.2).1 c hc).inBlk h h').imp (Nat.le_trans (Nat.le_add_right _ _))
    (Nat.le_trans (Nat.le_add_right _ _))

theorem BlocksOk.same_block {used : List Blk} (hb : BlocksOk used) {b b' : Blk} (hm : b ∈ used) (hm' : b' ∈ used)
    {a len a' len' : Nat} (hi : InBlk b a len) (hi' : InBlk b' a' len') (h1 : a' ≤ a + len) (h2 : a ≤ a' + len') :
    b = b' := by
  rcases hb.2.eq_or_rel Blk.Disj.symm hm hm' with heq | hd
  · exact heq
  · have := hd.inBlk hi hi'
    have := implOff_eq
    omega

theorem InBlk.cell {b : Blk} {a c ns x : Nat} (h : InBlk b a (c * ns)) (hx : x ∈ blockNodes a ns c) : InBlk b x ns :=
  ⟨Nat.le_trans h.1 (blockNodes_bounds hx).1, Nat.le_trans (blockNodes_bounds hx).2 h.2⟩

/-- cells of the live allocations: `cellsOf ns bytes` consecutive cells from the allocation's address -/
def liveCells (ns : Nat) (live : List (Nat × Nat)) : List Nat :=
  live.flatMap fun ab => blockNodes ab.1 ns (cellsOf ns ab.2)

@[simp] theorem liveCells_nil (ns : Nat) : liveCells ns [] = [] := rfl
@[simp] theorem liveCells_cons (ns : Nat) (ab : Nat × Nat) (live : List (Nat × Nat)) :
    liveCells ns (ab :: live) = blockNodes ab.1 ns (cellsOf ns ab.2) ++ liveCells ns live := by
  simp [liveCells]

theorem liveCells_erase {ns : Nat} {live : List (Nat × Nat)} {i : Nat} {ab : Nat × Nat} (h : live[i]? = some ab) :
    (liveCells ns live).Perm (blockNodes ab.1 ns (cellsOf ns ab.2) ++ liveCells ns (live.eraseIdx i)) :=
  (List.perm_cons_eraseIdx h).flatMap_right _

/-- **The invariant** of an unordered free list `l` inside a pool whose arena uses `used`, with the caller holding
`live`. -/
structure ListInv (l : FreeList) (used : List Blk) (live : List (Nat × Nat)) : Prop where
  nsPos : 0 < l.ns
  cap : l.cap = l.nodes.length
  blocks : BlocksOk used
  apart : (l.nodes ++ liveCells l.ns live).Pairwise (Apart l.ns)
  freeIn : ∀ x ∈ l.nodes, ∃ b ∈ used, InBlk b x l.ns
  liveIn : ∀ ab ∈ live, ∃ b ∈ used, InBlk b ab.1 (cellsOf l.ns ab.2 * l.ns)

theorem run_in_block {used : List Blk} (hb : BlocksOk used) {ns f c : Nat} (hc : 0 < c)
    (h : ∀ x ∈ blockNodes f ns c, ∃ b ∈ used, InBlk b x ns) : ∃ b ∈ used, InBlk b f (c * ns) := by
  induction c with
  | zero => omega
  | succ c ih =>
    rcases Nat.eq_zero_or_pos c with hc0 | hc0
    · subst hc0
      obtain ⟨b, hbu, hi⟩ := h f (by simp [blockNodes])
      exact ⟨b, hbu, by simpa using hi⟩
    · rw [blockNodes_succ_append] at h
      obtain ⟨b, hbu, hi⟩ := ih hc0 (fun x hx => h x (List.mem_append_left _ hx))
      obtain ⟨b', hbu', hi'⟩ := h (f + c * ns) (by simp)
      -- the last cell starts where the run before it ends
      obtain rfl := hb.same_block hbu hbu' hi hi' (Nat.le_refl _) (Nat.le_trans (Nat.le_add_right _ _) (Nat.le_add_right _ _))
      exact ⟨b, hbu, hi.1, by rw [Nat.add_mul, Nat.one_mul, ← Nat.add_assoc]; exact hi'.2⟩

theorem liveCells_take {ns : Nat} {cells A B : List Nat} {f bytes : Nat} (live : List (Nat × Nat))
    (hn : cells = A ++ blockNodes f ns (cellsOf ns bytes) ++ B) :
    (A ++ B ++ liveCells ns ((f, bytes) :: live)).Perm (cells ++ liveCells ns live) := by
  rw [hn, liveCells_cons]
  simp only [List.append_assoc]
  exact (List.perm_append_comm_assoc B _ _).append_left A

theorem liveCells_give {ns : Nat} {cells cells' : List Nat} {live : List (Nat × Nat)} {i a b : Nat}
    (hi : live[i]? = some (a, b)) (hn' : cells'.Perm (blockNodes a ns (cellsOf ns b) ++ cells)) :
    (cells' ++ liveCells ns (live.eraseIdx i)).Perm (cells ++ liveCells ns live) := by
  refine (hn'.append_right _).trans ?_
  rw [List.append_assoc]
  exact (List.perm_append_comm_assoc _ _ _).trans ((liveCells_erase hi).symm.append_left _)

end MemVerif.Model
