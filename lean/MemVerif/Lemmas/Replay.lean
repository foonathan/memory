import MemVerif.Lemmas.Scope
/-! Replay simulation: a run from `a` and a run from `b` = `a` with a longer cache (behind
`C06_replay_same_addresses`). -/
namespace MemVerif.Model

/-- replay relation: `b` is `a` with `P` appended to the cache -/
structure Sim (a b : MemStack) (P : List Blk) : Prop where
  cur : a.cur = b.cur
  used : a.arena.used = b.arena.used
  cached : b.arena.cached = a.arena.cached ++ P
  ca : a.arena.isCached = true
  cb : b.arena.isCached = true
  src : SrcSim a.arena.src b.arena.src P.length

theorem sim_alloc (cfg : Cfg) (e e' : EnvS) (a b : MemStack) (ka kb size align : Nat) (rest : List Blk)
    (h : Sim a b ((runOp cfg e a ka (.alloc size align)).acquired ++ rest))
    (hnf : ∀ o ∈ (runOp cfg e a ka (.alloc size align)).outs, o ≠ .throws .upstream) :
    (runOp cfg e' b kb (.alloc size align)).outs = (runOp cfg e a ka (.alloc size align)).outs ∧
    (runOp cfg e' b kb (.alloc size align)).acquired = [] ∧
    Sim (runOp cfg e a ka (.alloc size align)).st (runOp cfg e' b kb (.alloc size align)).st rest := by
  have hA := alloc_cases cfg e a ka h.ca h.src.left size align
  obtain ⟨⟨srcB, icB, usedB, cachedB⟩, curB, leakB⟩ := b
  generalize runOp cfg e a ka (.alloc size align) = r at hA h hnf
  obtain ⟨h1, h2, h3, h4, h5, h6⟩ := h
  dsimp only at h1 h2 h3 h5 h6
  subst h5 h3 h1 h2
  cases hA with
  | crash k hg =>
    simp only [runOp, allocate_eq, hg]
    -- in order: same outputs, nothing acquired, then the fields of `Sim`: `cur`, `used`, `cached`, `ca`, `cb`, `src`
    exact ⟨trivial, rfl, rfl, rfl, rfl, h4, rfl, h6⟩
  | bump k hg =>
    simp only [runOp, allocate_eq, hg]
    exact ⟨trivial, rfl, rfl, rfl, rfl, h4, rfl, h6⟩
  | fail k ex hg hc hex =>
    rcases hex with rfl | ⟨h0, rfl⟩
    · exact absurd rfl (hnf _ List.mem_cons_self)
    · -- the fixed source is spent: the replaying one must be spent too, with nothing left to replay
      dsimp only at h6 ⊢
      rw [h0] at h6
      obtain ⟨rfl, hr0⟩ := h6.fixed0
      obtain rfl : rest = [] := List.eq_nil_of_length_eq_zero hr0
      have hb : Arena.allocateBlock ⟨.fixed 0, true, a.arena.used, a.arena.cached ++ ([] ++ [])⟩ [e' kb] =
          .fail ⟨.fixed 0, true, a.arena.used, a.arena.cached ++ ([] ++ [])⟩ .oofm [] [e' kb] := by
        rw [hc]
        rfl
      simp only [runOp, allocate_eq, hg, hb]
      exact ⟨trivial, rfl, rfl, rfl, rfl, h4, rfl, h0 ▸ h6⟩
  | enter k n cs acq src' hg hn hs =>
    dsimp only at h6 ⊢
    rw [← List.append_assoc, ← hn, List.cons_append, alloc_enter_cache hg]
    exact ⟨rfl, rfl, rfl, rfl, rfl, rfl, rfl, SrcSim.steps hs (by rwa [List.length_append] at h6)⟩

theorem sim_try (cfg : Cfg) (e e' : EnvS) (a b : MemStack) (ka kb size align : Nat) (rest : List Blk)
    (h : Sim a b ((runOp cfg e a ka (.tryAlloc size align)).acquired ++ rest)) :
    (runOp cfg e' b kb (.tryAlloc size align)).outs = (runOp cfg e a ka (.tryAlloc size align)).outs ∧
    (runOp cfg e' b kb (.tryAlloc size align)).acquired = [] ∧
    Sim (runOp cfg e a ka (.tryAlloc size align)).st (runOp cfg e' b kb (.tryAlloc size align)).st rest := by
  simp only [runOp, tryAllocate_core, List.nil_append] at h ⊢
  -- both runs see the same top pointer and used blocks
  rw [← h.cur, ← h.used]
  exact ⟨rfl, trivial, rfl, h.used, h.cached, h.ca, h.cb, h.src⟩

theorem top_congr {a b : MemStack} (h1 : a.cur = b.cur) (h2 : a.arena.used = b.arena.used) : b.top = a.top := by
  unfold MemStack.top
  rw [blockEnd_eq, blockEnd_eq, h1, h2]

theorem sim_unwind (cfg : Cfg) (a b : MemStack) (P : List Blk) (m : Marker) (h : Sim a b P) :
    Sim (a.unwind cfg m).1 (b.unwind cfg m).1 P := by
  -- both runs see the same top pointer and used blocks, so `unwindCore` says the same of both
  simp only [MemStack.unwind, unwindEv_core cfg h.ca, unwindEv_core cfg h.cb, unwound, ← h.cur, ← h.used]
  exact ⟨rfl, rfl, by simp [h.cached], h.ca, h.cb, h.src⟩

mutual
theorem sim_op (cfg : Cfg) (e e' : EnvS) : ∀ (op : SOp) (a b : MemStack) (ka kb : Nat) (rest : List Blk),
    Sim a b ((runOp cfg e a ka op).acquired ++ rest) →
    (∀ o ∈ (runOp cfg e a ka op).outs, o ≠ .throws .upstream) →
    (runOp cfg e' b kb op).outs = (runOp cfg e a ka op).outs ∧ (runOp cfg e' b kb op).acquired = [] ∧
      Sim (runOp cfg e a ka op).st (runOp cfg e' b kb op).st rest
  | .alloc size align, a, b, ka, kb, rest, h, hnf => sim_alloc cfg e e' a b ka kb size align rest h hnf
  | .tryAlloc size align, a, b, ka, kb, rest, h, _ => sim_try cfg e e' a b ka kb size align rest h
  | .scope ops, a, b, ka, kb, rest, h, hnf => by
    have htop := top_congr h.cur h.used
    cases hm : a.top with
    | none =>
      rw [hm] at htop
      simp only [runOp, hm, htop, List.nil_append] at h hnf ⊢
      exact ⟨trivial, trivial, h⟩
    | some m =>
      rw [hm] at htop
      simp only [runOp, hm, htop] at h hnf ⊢
      obtain ⟨i1, i2, i3⟩ := sim_ops cfg e e' ops a b ka kb rest h hnf
      exact ⟨i1, i2, sim_unwind cfg _ _ rest m i3⟩
theorem sim_ops (cfg : Cfg) (e e' : EnvS) : ∀ (ops : List SOp) (a b : MemStack) (ka kb : Nat) (rest : List Blk),
    Sim a b ((runOps cfg e a ka ops).acquired ++ rest) →
    (∀ o ∈ (runOps cfg e a ka ops).outs, o ≠ .throws .upstream) →
    (runOps cfg e' b kb ops).outs = (runOps cfg e a ka ops).outs ∧ (runOps cfg e' b kb ops).acquired = [] ∧
      Sim (runOps cfg e a ka ops).st (runOps cfg e' b kb ops).st rest
  | [], a, b, ka, kb, rest, h, _ => by
    simp only [runOps, List.nil_append] at h ⊢
    exact ⟨trivial, trivial, h⟩
  | op :: ops, a, b, ka, kb, rest, h, hnf => by
    simp only [runOps, List.append_assoc] at h hnf ⊢
    obtain ⟨i1, i2, i3⟩ := sim_op cfg e e' op a b ka kb _ h (fun o ho => hnf o (List.mem_append_left _ ho))
    obtain ⟨j1, j2, j3⟩ := sim_ops cfg e e' ops (runOp cfg e a ka op).st (runOp cfg e' b kb op).st
      (runOp cfg e a ka op).k (runOp cfg e' b kb op).k rest i3 (fun o ho => hnf o (List.mem_append_right _ ho))
    exact ⟨by rw [i1, j1], by rw [i2, j2]; rfl, j3⟩
end

end MemVerif.Model
