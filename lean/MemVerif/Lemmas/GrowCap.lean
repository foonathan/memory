import MemVerif.Model.Pool
import MemVerif.Lemmas.Arith
import MemVerif.Lemmas.Util
/-!
The capacity loop of `memory_pool_collection::def_capacity(pool)` (D31 repair): the translated `usable_size` functions
on naturals, and the bound on the number of rounds.
-/
namespace MemVerif.Model
open MemVerif.Gen MemVerif.Bits

/-- `free_memory_list::usable_size` (and the ordered list's, which is the same term) never wraps: `size / ns * ns ≤ size` -/
theorem freeListUsableSize_toNat (ns size : BitVec 64) :
    (freeListUsableSize ns size).toNat = size.toNat / ns.toNat * ns.toNat := by
  unfold freeListUsableSize
  rw [BitVec.toNat_mul, BitVec.toNat_udiv]
  exact Nat.mod_eq_of_lt (Nat.lt_of_le_of_lt (Nat.div_mul_le_self _ _) size.isLt)

/-- `small_free_memory_list::usable_size`; the header of the last, partial chunk comes off by a truncated subtraction -/
theorem smallListUsableSize_toNat (ns size : BitVec 64) (h : 32 + ns.toNat * 255 < 2 ^ 64) :
    (smallListUsableSize ns size).toNat =
      size.toNat / (32 + ns.toNat * 255) * 255 * ns.toNat + (size.toNat % (32 + ns.toNat * 255) - 32) := by
  -- `q` whole chunks of `32 + 255 ns` bytes hold `q * 255 * ns` bytes of nodes, so nothing below wraps
  have hq := Nat.div_mul_add_mod_le size.toNat (show 255 * ns.toNat ≤ 32 + ns.toNat * 255 by omega)
  rw [← Nat.mul_assoc] at hq
  unfold smallListUsableSize
  rw [BitVec.toNat_add, toNat_ite_sub]
  simp only [C.chunk_memory_offset, C.chunk_max_nodes, BitVec.toNat_mul, BitVec.toNat_udiv, BitVec.toNat_umod,
    BitVec.toNat_add, BitVec.toNat_ofNat, Nat.mod_mul_mod]
  simp (disch := omega) only [Nat.mod_eq_of_lt]

theorem smallUsable_eq (l : SmallList) (cap : Nat) (hn : 32 + l.ns * 255 < 2 ^ 64) (hc : cap < 2 ^ 64) :
    (AnyList.small l).usableSize cap = cap / (32 + l.ns * 255) * 255 * l.ns + (cap % (32 + l.ns * 255) - 32) := by
  have h1 : (BitVec.ofNat 64 l.ns).toNat = l.ns := toNat_ofNat_lt (by omega)
  show (smallListUsableSize (BitVec.ofNat 64 l.ns) (BitVec.ofNat 64 cap)).toNat = _
  rw [smallListUsableSize_toNat _ _ (by rw [h1]; exact hn), h1, toNat_ofNat_lt hc]

theorem smallUsable_lt (l : SmallList) (cap : Nat) (hn : 32 + l.ns * 255 < 2 ^ 64) (hc : cap < 32 + l.ns * 255) :
    (AnyList.small l).usableSize cap = cap - 32 := by
  rw [smallUsable_eq l cap hn (Nat.lt_trans hc hn), Nat.div_eq_of_lt hc, Nat.mod_eq_of_lt hc, Nat.zero_mul, Nat.zero_add]

theorem smallUsable_ge (l : SmallList) (cap : Nat) (hn : 32 + l.ns * 255 < 2 ^ 64) (hc : cap < 2 ^ 64)
    (hc2 : 32 + l.ns * 255 ≤ cap) : l.ns ≤ (AnyList.small l).usableSize cap := by
  rw [smallUsable_eq l cap hn hc, Nat.mul_assoc]
  have hq : 0 < cap / (32 + l.ns * 255) := Nat.div_pos hc2 (Nat.lt_of_lt_of_le (by decide) (Nat.le_add_right 32 _))
  exact Nat.le_trans (Nat.le_mul_of_pos_left _ (by decide)) (Nat.le_trans (Nat.le_mul_of_pos_left _ hq) (Nat.le_add_right _ _))

theorem growCapacity_succ (l : AnyList) (fuel cap : Nat) :
    growCapacity l (fuel + 1) cap =
      if l.usableSize cap < l.nodeSize then growCapacity l fuel (add64 cap (l.nodeSize - l.usableSize cap)) else cap := rfl

theorem growCapacity_lt (l : AnyList) (fuel cap : Nat) (hc : cap < 2 ^ 64) : growCapacity l fuel cap < 2 ^ 64 := by
  induction fuel generalizing cap with
  | zero => exact hc
  | succ f ih =>
    unfold growCapacity
    split
    · exact ih _ (by unfold add64; exact BitVec.isLt _)
    · exact hc

/-- one round is enough if raising a capacity that holds no node by the missing bytes gives one that does: the next
round stops there -/
theorem growCapacity_round (l : AnyList) (fuel cap : Nat)
    (h : l.usableSize cap < l.nodeSize → l.nodeSize ≤ l.usableSize (add64 cap (l.nodeSize - l.usableSize cap))) :
    l.nodeSize ≤ l.usableSize (growCapacity l (fuel + 2) cap) := by
  rw [growCapacity_succ]
  by_cases hlt : l.usableSize cap < l.nodeSize
  · rw [if_pos hlt, growCapacity_succ, if_neg (Nat.not_lt.2 (h hlt))]
    exact h hlt
  · rw [if_neg hlt]
    exact Nat.not_lt.1 hlt

theorem growCapacity_small_above (l : SmallList) (hn : 32 + l.ns * 255 < 2 ^ 64) (fuel cap : Nat)
    (hc : cap < 2 ^ 64) (h32 : 32 < cap) :
    l.ns ≤ (AnyList.small l).usableSize (growCapacity (.small l) (fuel + 2) cap) := by
  refine growCapacity_round (.small l) fuel cap fun hlt => ?_
  -- a capacity that holds no node lies in the first chunk; it is raised to `ns + 32`, whose usable size is `ns`
  have hmid : cap < 32 + l.ns * 255 := Nat.lt_of_not_le fun h => Nat.not_le.2 hlt (smallUsable_ge l cap hn hc h)
  change _ < l.ns at hlt
  rw [smallUsable_lt l cap hn hmid] at hlt
  have hadd : cap + (l.ns - (cap - 32)) = l.ns + 32 := by omega
  show l.ns ≤ (AnyList.small l).usableSize (add64 cap (l.ns - (AnyList.small l).usableSize cap))
  rw [smallUsable_lt l cap hn hmid, add64_eq (by omega), hadd, smallUsable_lt l _ hn (by omega), Nat.add_sub_cancel]
  exact Nat.le_refl _

/-- **The capacity loop of `def_capacity(pool)` ends within its fuel with room for one node** (small node list), for
every node size whose chunk size is representable and every capacity: up to 32 bytes each round adds a node size, so
after at most 33 rounds `growCapacity_small_above` applies. So `insert` is never asked to build a list of zero chunks
(D31). -/
theorem growCapacity_enough_small (l : SmallList) (hn : 32 + l.ns * 255 < 2 ^ 64) (h0 : 0 < l.ns) :
    ∀ (fuel cap : Nat), cap ≤ 32 → 35 ≤ fuel + cap →
      l.ns ≤ (AnyList.small l).usableSize (growCapacity (.small l) fuel cap) := by
  have hN : (AnyList.small l).nodeSize = l.ns := rfl
  intro fuel
  induction fuel with
  | zero => intro cap _ h; omega
  | succ fuel ih =>
    intro cap hlow hf
    have hadd : cap + l.ns < 2 ^ 64 := Nat.lt_of_le_of_lt (Nat.add_le_add hlow (Nat.le_mul_of_pos_right _ (by decide))) hn
    rw [growCapacity_succ, smallUsable_lt l cap hn (Nat.lt_of_le_of_lt hlow (Nat.lt_add_of_pos_right (Nat.mul_pos h0 (by decide)))),
      Nat.sub_eq_zero_of_le hlow, hN, if_pos h0, Nat.sub_zero, add64_eq hadd]
    by_cases h32 : cap + l.ns ≤ 32
    · exact ih (cap + l.ns) h32 (by omega)
    · obtain ⟨f', rfl⟩ : ∃ f', fuel = f' + 2 := ⟨fuel - 2, by omega⟩
      exact growCapacity_small_above l hn f' _ hadd (Nat.lt_of_not_le h32)

/-- the intrusive lists: `usable_size` rounds down to whole nodes -/
theorem growCapacity_enough_free (l : FreeList) (hn : l.ns < 2 ^ 63) (h0 : 0 < l.ns) (fuel cap : Nat) (hc : cap < 2 ^ 63)
    (hf : 2 ≤ fuel) :
    l.ns ≤ (AnyList.free l).usableSize (growCapacity (.free l) fuel cap) := by
  have hsum : cap + l.ns < 2 ^ 64 := Nat.add_lt_add hc hn
  have hU : ∀ c, c < 2 ^ 64 → (AnyList.free l).usableSize c = c / l.ns * l.ns := by
    intro c hc
    show (freeListUsableSize (BitVec.ofNat 64 l.ns) (BitVec.ofNat 64 c)).toNat = _
    rw [freeListUsableSize_toNat, toNat_ofNat_lt hc, toNat_ofNat_lt (Nat.lt_of_le_of_lt (Nat.le_add_left _ _) hsum)]
  obtain ⟨f, rfl⟩ : ∃ f, fuel = f + 2 := ⟨fuel - 2, (Nat.sub_add_cancel hf).symm⟩
  refine growCapacity_round (.free l) f cap fun hlt => ?_
  -- a capacity below one node is raised by a whole node
  show l.ns ≤ (AnyList.free l).usableSize (add64 cap (l.ns - (AnyList.free l).usableSize cap))
  rw [hU cap (Nat.lt_of_le_of_lt (Nat.le_add_right _ _) hsum)] at hlt ⊢
  have hcl : cap < l.ns := Nat.lt_of_not_le fun h => Nat.not_le.2 hlt (Nat.le_mul_of_pos_left _ (Nat.div_pos h h0))
  rw [Nat.div_eq_of_lt hcl, Nat.zero_mul, Nat.sub_zero, add64_eq hsum, hU _ hsum]
  exact Nat.le_mul_of_pos_left _ (Nat.div_pos (Nat.le_add_left _ _) h0)

end MemVerif.Model
