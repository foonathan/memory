import MemVerif.Lemmas.SmallRing
import MemVerif.Lemmas.CellInv
/-!
C01 for the small node free list (`small_free_memory_list`): the list's own invariant `SmallOk` holds of the empty list
and is kept by `allocate`, by the release of a live node and by the insertion of a new block, and each of them changes
the free cells exactly as the generic cell invariant expects.
-/
namespace MemVerif.Model

def Chunk.cellAt (ns : Nat) (c : Chunk) (i : Nat) : Nat := c.base + chunkOff + i * ns

/-- the free cells of a chunk, in chain order -/
def Chunk.freeCells (ns : Nat) (c : Chunk) : List Nat := c.free.map (c.cellAt ns)

def Chunk.allCells (ns : Nat) (c : Chunk) : List Nat := (List.range c.noNodes).map (c.cellAt ns)

/-- free cells of the whole list, in ring order -/
def SmallList.cells (l : SmallList) : List Nat := l.chunks.flatMap (Chunk.freeCells l.ns)

/-- the small list's own invariant inside a pool that uses `used`, with the caller holding `live` -/
structure SmallOk (l : SmallList) (used : List Blk) (live : List (Nat × Nat)) : Prop where
  invS : Props.C04Lists.SmallInvS l
  ring : SmallRing l
  nsPos : 0 < l.ns
  /-- every chunk lies inside the usable part of a used block -/
  chunkIn : ∀ c ∈ l.chunks, ∃ b ∈ used, b.usable.base ≤ c.base ∧ c.endOf l.ns ≤ b.usable.base + b.usable.size
  /-- every live allocation is one node, on the node grid of a chunk -/
  liveGrid : ∀ ab ∈ live, ab.2 ≤ l.ns ∧ ∃ c ∈ l.chunks, ∃ idx, idx < c.noNodes ∧ ab.1 = c.cellAt l.ns idx

theorem SmallOk.mono {l : SmallList} {used used' : List Blk} {live : List (Nat × Nat)} (h : SmallOk l used live)
    (hsub : ∀ b ∈ used, b ∈ used') : SmallOk l used' live :=
  { h with chunkIn := fun c hc => let ⟨b, hb, hi⟩ := h.chunkIn c hc; ⟨b, hsub b hb, hi⟩ }

theorem Chunk.cellAt_geo {c c' : Chunk} (hg : c'.geo = c.geo) (ns i : Nat) : c'.cellAt ns i = c.cellAt ns i := by
  unfold Chunk.cellAt
  rw [show c'.base = c.base from congrArg Prod.fst hg]

/-- the invariant looks at the free chains only through `invS`; everything else depends on the geometry of the chunks.
This is what `allocate` and `deallocate`, which change one free chain, rest on. -/
theorem SmallOk.congr_geo {l l' : SmallList} {used : List Blk} {live : List (Nat × Nat)} (hS : SmallOk l used live)
    (hinv : Props.C04Lists.SmallInvS l') (hP : l'.P = l.P) (hns : l'.ns = l.ns)
    (hg : l'.chunks.map Chunk.geo = l.chunks.map Chunk.geo)
    (hA : l'.allocChunk = l.allocChunk ∨ ∃ c ∈ l.chunks, l'.allocChunk = c.base)
    (hD : l'.deallocChunk = l.deallocChunk ∨ ∃ c ∈ l.chunks, l'.deallocChunk = c.base) : SmallOk l' used live := by
  refine ⟨hinv, ring_transport hS.ring hP hns hg hA hD, hns ▸ hS.nsPos, fun c' hc' => ?_, fun ab hab => ?_⟩
  · obtain ⟨c, hc, e⟩ := geo_mem hg.symm hc'
    rw [hns, ← Chunk.endOf_geo e, show c'.base = c.base from (congrArg Prod.fst e).symm]
    exact hS.chunkIn c hc
  · obtain ⟨h1, c, hc, k, hk, e⟩ := hS.liveGrid ab hab
    obtain ⟨c', hc', eg⟩ := geo_mem hg hc
    rw [hns, e, ← Chunk.cellAt_geo eg]
    exact ⟨h1, c', hc', k, (show c'.noNodes = c.noNodes from congrArg Prod.snd eg) ▸ hk, rfl⟩

theorem SmallList.new_ok (nodeSize P : Nat) (hns : 0 < nodeSize) : SmallOk (SmallList.new nodeSize P) [] [] := by
  refine ⟨Props.C04Lists.SmallInvS.new nodeSize P, ⟨?_, ⟨0, by simp [SmallList.posOf, SmallList.new]⟩,
    ⟨0, by simp [SmallList.posOf, SmallList.new]⟩, ?_⟩, hns, ?_, ?_⟩
  · intro i j ci cj hi; simp [SmallList.new] at hi
  · intro c hc; simp [SmallList.new] at hc
  · intro c hc; simp [SmallList.new] at hc
  · intro ab hab; cases hab

theorem SmallList.allocate_spec {l l' : SmallList} {used : List Blk} {live : List (Nat × Nat)} {x bytes : Nat}
    (hS : SmallOk l used live) (hb : bytes ≤ l.ns) (h : l.allocate = some (l', x)) :
    ∃ A B, l.cells = A ++ [x] ++ B ∧ l'.cells = A ++ B ∧ l'.ns = l.ns ∧ l'.P = l.P ∧
      SmallOk l' used ((x, bytes) :: live) := by
  obtain ⟨i, c, idx, rest, hc, hfree, rfl, rfl⟩ := SmallList.allocate_shape h
  have hmem := List.mem_of_getElem? hc
  let c' : Chunk := { c with capacity := c.capacity - 1, free := rest }
  obtain ⟨e1, e2⟩ := List.flatMap_set (Chunk.freeCells l.ns) c' hc
  have hidx : idx < c.noNodes := (hS.invS.2 c hmem).2.2 idx (by rw [hfree]; simp)
  have hok : SmallOk (l.allocResult i c rest) used live :=
    hS.congr_geo (hS.invS.allocResult hc hfree) rfl rfl (geo_set hc rfl) (Or.inr ⟨c, hmem, rfl⟩) (Or.inl rfl)
  refine ⟨(l.chunks.take i).flatMap (Chunk.freeCells l.ns),
    rest.map (c.cellAt l.ns) ++ (l.chunks.drop (i + 1)).flatMap (Chunk.freeCells l.ns), ?_, ?_, rfl, rfl,
    { hok with liveGrid := fun ab hab => ?_ }⟩
  · show l.chunks.flatMap _ = _
    rw [e1]
    simp [Chunk.freeCells, hfree, Chunk.cellAt]
  · show (l.chunks.set i c').flatMap (Chunk.freeCells l.ns) = _
    rw [e2]
    simp [Chunk.freeCells, c', Chunk.cellAt]
  · rcases List.mem_cons.mp hab with rfl | hab
    · exact ⟨hb, c', List.mem_of_getElem? (List.getElem?_set_self_of_some hc), idx, hidx, rfl⟩
    · exact hok.liveGrid ab hab

/-- a cell of a chunk lies in its node area, on a node boundary, and the release recovers its index -/
theorem Chunk.cellAt_spec (c : Chunk) {ns idx : Nat} (hns : 0 < ns) (hidx : idx < c.noNodes) :
    (c.base + chunkOff ≤ c.cellAt ns idx ∧ c.cellAt ns idx < c.base + chunkOff + c.noNodes * ns) ∧
      (c.cellAt ns idx - (c.base + chunkOff)) % ns = 0 ∧ (c.cellAt ns idx - (c.base + chunkOff)) / ns = idx := by
  have hoff : c.cellAt ns idx - (c.base + chunkOff) = idx * ns := Nat.add_sub_cancel_left ..
  have : (idx + 1) * ns ≤ c.noNodes * ns := Nat.mul_le_mul_right _ hidx
  rw [Nat.add_mul, Nat.one_mul] at this
  rw [hoff, Nat.mul_mod_left, Nat.mul_div_cancel _ hns]
  unfold Chunk.cellAt
  exact ⟨⟨Nat.le_add_right _ _, Nat.add_lt_add_left (Nat.lt_of_lt_of_le (Nat.lt_add_of_pos_right hns) this) _⟩, rfl, rfl⟩

/-- `deallocate(p)` of the `i`-th live allocation: the chunk search finds its chunk from every cursor state, the three
pointer checks pass in every configuration, the node index goes on the chunk's free chain. -/
theorem SmallList.deallocate_spec (cfg : Cfg) {l : SmallList} {used : List Blk} {live : List (Nat × Nat)} {i p b : Nat}
    (hS : SmallOk l used live) (hi : live[i]? = some (p, b))
    (hap : ∀ y ∈ l.cells, y + l.ns ≤ p ∨ p + l.ns ≤ y) :
    ∃ l', l.deallocate cfg p = .ok l' ∧ l'.cells.Perm (p :: l.cells) ∧ l'.ns = l.ns ∧ l'.P = l.P ∧
      SmallOk l' used (live.eraseIdx i) := by
  obtain ⟨_, c, hcm, idx, hidx, rfl⟩ := hS.liveGrid (p, b) (List.mem_of_getElem? hi)
  obtain ⟨j, hc⟩ := List.getElem?_of_mem hcm
  have hns := hS.nsPos
  obtain ⟨harea, hmod, hdiv⟩ := c.cellAt_spec hns hidx
  -- the node is live, so it is not on the chain: a free cell cannot be apart from itself
  have hnot : (c.cellAt l.ns idx - (c.base + chunkOff)) / l.ns ∉ c.free := by
    rw [hdiv]
    intro hin
    have := hap _ (List.mem_flatMap.mpr ⟨c, hcm, List.mem_map.mpr ⟨idx, hin, rfl⟩⟩)
    exact Nat.not_le.2 (Nat.lt_add_of_pos_right hns) (this.elim id id)
  have hok := hS.congr_geo (hS.invS.deallocResult _ hns hc harea hnot) rfl rfl (geo_set hc rfl) (Or.inl rfl)
    (Or.inr ⟨c, hcm, rfl⟩)
  refine ⟨_, SmallList.deallocate_valid cfg hS.ring hc harea hmod hnot, ?_, rfl, rfl,
    { hok with liveGrid := fun ab hab => hok.liveGrid ab ((List.eraseIdx_sublist live i).subset hab) }⟩
  let c' : Chunk := { c with capacity := c.capacity + 1, free := (c.cellAt l.ns idx - (c.base + chunkOff)) / l.ns :: c.free }
  obtain ⟨e1, e2⟩ := List.flatMap_set (Chunk.freeCells l.ns) c' hc
  have : Chunk.freeCells l.ns c' = c.cellAt l.ns idx :: Chunk.freeCells l.ns c := by
    rw [Chunk.freeCells, List.map_cons, hdiv]
    rfl
  show ((l.chunks.set j c').flatMap (Chunk.freeCells l.ns)).Perm (_ :: l.chunks.flatMap (Chunk.freeCells l.ns))
  rw [e1, e2, this]
  simp only [List.append_assoc, List.cons_append]
  exact List.perm_middle

theorem Chunk.allCells_eq (ns : Nat) (c : Chunk) : c.allCells ns = blockNodes (c.base + chunkOff) ns c.noNodes :=
  (blockNodes_eq_map _ _ _).symm

theorem Chunk.allCells_spec (ns : Nat) (c : Chunk) :
    (c.allCells ns).Pairwise (Apart ns) ∧ ∀ x ∈ c.allCells ns, c.base + chunkOff ≤ x ∧ x + ns ≤ c.endOf ns := by
  rw [Chunk.allCells_eq]
  exact ⟨blockNodes_pairwise _ _ _, fun x hx => blockNodes_bounds hx⟩

/-- the cells a block is cut into by the small list: all nodes of the chunks `insert` builds over its usable part -/
def smallBlockCells (ns : Nat) (b : Blk) : List Nat :=
  (smallInsertChunks ns b.usable.base b.usable.size).1.flatMap (Chunk.allCells ns)

theorem fresh_cells (ns : Nat) (cs : List Chunk) (h : ∀ c ∈ cs, c.free = List.range c.noNodes) :
    cs.flatMap (Chunk.freeCells ns) = cs.flatMap (Chunk.allCells ns) := by
  rw [List.flatMap_def, List.flatMap_def, List.map_congr_left fun c hc => show c.freeCells ns = c.allCells ns from ?_]
  unfold Chunk.freeCells Chunk.allCells
  rw [h c hc]

theorem chunks_cells_apart (ns : Nat) (cs : List Chunk) (hs : ChunksSorted ns cs) :
    (cs.flatMap (Chunk.allCells ns)).Pairwise (Apart ns) := by
  rw [List.pairwise_flatMap]
  refine ⟨fun c _ => (c.allCells_spec ns).1, ?_⟩
  refine hs.imp ?_
  intro a b hab x hx y hy
  have h1 := (a.allCells_spec ns).2 x hx
  have h2 := (b.allCells_spec ns).2 y hy
  exact Or.inl (Nat.le_trans h1.2 (Nat.le_trans hab (Nat.le_trans (Nat.le_add_right _ _) h2.1)))

theorem smallBlockCells_spec (ns : Nat) (b : Blk) :
    (smallBlockCells ns b).Pairwise (Apart ns) ∧
      ∀ x ∈ smallBlockCells ns b, b.usable.base ≤ x ∧ x + ns ≤ b.usable.base + b.usable.size := by
  obtain ⟨hgs, hgin, _⟩ := smallInsertChunks_geo ns b.usable.base b.usable.size
  refine ⟨chunks_cells_apart ns _ hgs, fun x hx => ?_⟩
  obtain ⟨c, hc, hxc⟩ := List.mem_flatMap.mp hx
  have h1 := (c.allCells_spec ns).2 x hxc
  have h2 := hgin c hc
  exact ⟨Nat.le_trans h2.1 (Nat.le_trans (Nat.le_add_right _ _) h1.1), Nat.le_trans h1.2 h2.2⟩

theorem SmallList.insert_cells {l l' : SmallList} {mem size : Nat} (h : l.insert mem size = some l') :
    l'.cells.Perm ((smallInsertChunks l.ns mem size).1.flatMap (Chunk.allCells l.ns) ++ l.cells) := by
  obtain ⟨before, rest, hsplit, hnew⟩ := insertSorted_split l.chunks (smallInsertChunks l.ns mem size).1
  -- the new chunks are fresh: all their cells are free
  rw [SmallList.insert_shape h, ← fresh_cells l.ns _ fun c hc => (smallInsertChunks_fresh l.ns mem size c hc).2.1]
  show ((insertSorted l.chunks _).flatMap (Chunk.freeCells l.ns)).Perm (_ ++ l.chunks.flatMap (Chunk.freeCells l.ns))
  rw [hnew, hsplit]
  simp only [List.flatMap_append, List.append_assoc]
  exact List.perm_append_comm_assoc _ _ _

theorem SmallList.insert_spec {l l' : SmallList} {used : List Blk} {live : List (Nat × Nat)} {blk : Blk}
    (hS : SmallOk l used live) (hb : BlocksOk (blk :: used))
    (hobj : blk.usable.base + blk.usable.size ≤ l.P ∨ l.P < blk.usable.base)
    (h : l.insert blk.usable.base blk.usable.size = some l') :
    l'.cells.Perm (smallBlockCells l.ns blk ++ l.cells) ∧ l'.ns = l.ns ∧ l'.P = l.P ∧
      SmallOk l' (blk :: used) live := by
  have hgin := (smallInsertChunks_geo l.ns blk.usable.base blk.usable.size).2.1
  have hmem := insertSorted_mem l.chunks (smallInsertChunks l.ns blk.usable.base blk.usable.size).1
  -- every old chunk lies in a used block, hence outside the new one
  have hout : ∀ c ∈ l.chunks, c.endOf l.ns ≤ blk.usable.base ∨ blk.usable.base + blk.usable.size ≤ c.base := by
    intro c hc
    obtain ⟨b, hbu, h1, h2⟩ := hS.chunkIn c hc
    have hc : InBlk b c.base (chunkOff + c.noNodes * l.ns) :=
      (inBlk_iff_usable (hb.1 b (List.mem_cons_of_mem _ hbu))).2 ⟨h1, Nat.le_trans (Nat.le_of_eq (Nat.add_assoc ..).symm) h2⟩
    have hblk : InBlk blk blk.usable.base blk.usable.size :=
      (inBlk_iff_usable (hb.1 blk List.mem_cons_self)).2 ⟨Nat.le_refl _, Nat.le_refl _⟩
    exact (hb.cons_apart hbu hblk hc).symm.imp_left (Nat.le_trans (Nat.le_of_eq (Nat.add_assoc ..)))
  have hl' := SmallList.insert_shape h
  refine ⟨SmallList.insert_cells h, by rw [hl'], by rw [hl'],
    ⟨hS.invS.insert hS.nsPos h, hS.ring.insert hout hobj h, by rw [hl']; exact hS.nsPos, ?_, ?_⟩⟩
  · rw [hl']
    intro c hc
    rcases (hmem c).mp hc with h1 | h1
    · obtain ⟨b, hbu, hi⟩ := hS.chunkIn c h1
      exact ⟨b, List.mem_cons_of_mem _ hbu, hi⟩
    · exact ⟨blk, List.mem_cons_self, hgin c h1⟩
  · rw [hl']
    intro ab hab
    obtain ⟨h1, y, hy, k, hk, e⟩ := hS.liveGrid ab hab
    exact ⟨h1, y, (hmem y).mpr (Or.inl hy), k, hk, e⟩

end MemVerif.Model
