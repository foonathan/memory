import MemVerif.Lemmas.OrdNode
/-!
C01 for the ordered free list: each list operation a pool performs, applied to cells that are *apart* from the free
cells (a fresh block, or the cells of a live allocation), succeeds, keeps `OrdList.Inv`, and changes the node sequence
by exactly those cells: a permutation of `run ++ nodes` after an insertion, a split `A ++ run ++ B` before a removal.
That is the form in which `Lemmas/AnyList` states the operations of all three lists for the pool invariant.
-/
namespace MemVerif.Model

theorem OrdList.insertImpl_spec (cfg : Cfg) (l : OrdList) (hI : l.Inv) (mem size : Nat) (hk : 0 < size / l.ns)
    (hrun : RunApart l mem (size / l.ns)) :
    ∃ i, Around l.nodes mem i ∧
      l.insertImpl cfg mem size =
        .ok ({ l with nodes := l.spliceAt i (blockNodes mem l.ns (size / l.ns)), cap := l.cap + size / l.ns,
                      ld := if l.addr i = l.ldp then mem else l.ld }, l.addr i) := by
  have hm := hrun.notMem hk hI.ns_pos
  obtain ⟨i, hfp, hA⟩ := findPos_around l hI cfg.dblDealloc mem hm
  refine ⟨i, hA, ?_⟩
  unfold OrdList.insertImpl
  rw [if_neg (Nat.ne_of_gt hk), intervalAssertFails_valid l hI mem hm]
  simp only [Bool.and_false, Bool.false_eq_true, if_false, hfp, ne_eq, not_true_eq_false]

theorem OrdList.insert_run (cfg : Cfg) (l : OrdList) (hI : l.Inv) (mem size : Nat) (hk : 0 < size / l.ns)
    (hrun : RunApart l mem (size / l.ns)) (hout : RunOut l mem (size / l.ns)) (hm0 : 0 < mem) :
    ∃ l', l.insert cfg mem size = .ok l' ∧ l'.Inv ∧ l'.ns = l.ns ∧ l'.B = l.B ∧ l'.E = l.E ∧
      l'.nodes.Perm (blockNodes mem l.ns (size / l.ns) ++ l.nodes) := by
  obtain ⟨i, hA, hins⟩ := OrdList.insertImpl_spec cfg l hI mem size hk hrun
  unfold OrdList.insert
  rw [hins]
  refine ⟨_, rfl, ?_, rfl, rfl, rfl, spliceAt_perm l i _⟩
  refine splice_block_inv hI hk hA hrun hout hm0 rfl rfl rfl rfl rfl ?_
  by_cases h : l.addr i = l.ldp
  · exact Or.inl ⟨h.symm, if_pos h⟩
  · exact Or.inr ⟨rfl, if_neg h, h⟩

theorem OrdList.deallocateBytes_run (cfg : Cfg) (l : OrdList) (hI : l.Inv) (p n : Nat) (hn : l.ns < n)
    (hrun : RunApart l p (ceilNodes n l.ns)) (hout : RunOut l p (ceilNodes n l.ns)) (hp0 : 0 < p) :
    ∃ l', l.deallocateBytes cfg p n = .ok l' ∧ l'.Inv ∧ l'.ns = l.ns ∧ l'.B = l.B ∧ l'.E = l.E ∧
      l'.nodes.Perm (blockNodes p l.ns (ceilNodes n l.ns) ++ l.nodes) := by
  have hns := hI.ns_pos
  have hdiv : ceilNodes n l.ns * l.ns / l.ns = ceilNodes n l.ns := Nat.mul_div_cancel _ hns
  have hk : 0 < ceilNodes n l.ns := ceilNodes_pos hns (Nat.zero_lt_of_lt hn)
  obtain ⟨i, hA, hins⟩ := OrdList.insertImpl_spec cfg l hI p (ceilNodes n l.ns * l.ns)
    (by rw [hdiv]; exact hk) (by rw [hdiv]; exact hrun)
  rw [hdiv] at hins
  unfold OrdList.deallocateBytes
  rw [if_neg (Nat.not_le.2 hn), hins]
  refine ⟨_, rfl, ?_, rfl, rfl, rfl, spliceAt_perm l i _⟩
  exact splice_block_inv hI hk hA hrun hout hp0 rfl rfl rfl rfl rfl (Or.inl ⟨rfl, rfl⟩)

theorem OrdList.deallocate_run (cfg : Cfg) (l : OrdList) (hI : l.Inv) (p : Nat)
    (hrun : RunApart l p 1) (hout : RunOut l p 1) (hp0 : 0 < p) :
    ∃ l', l.deallocate cfg p = .ok l' ∧ l'.Inv ∧ l'.ns = l.ns ∧ l'.B = l.B ∧ l'.E = l.E ∧
      l'.nodes.Perm (p :: l.nodes) := by
  have hm := hrun.notMem (Nat.le_refl _) hI.ns_pos
  obtain ⟨l', h, hn, _, _, hI', e⟩ := OrdList.deallocate_valid cfg l hI p hm (by rwa [RunOut, Nat.one_mul] at hout) hp0
  exact ⟨l', h, hI', e.1, e.2.1, e.2.2, hn ▸ perm_insertAsc p l.nodes⟩

theorem OrdList.insert_ok {cfg : Cfg} {l l' : OrdList} {m s : Nat} (h : l.insert cfg m s = .ok l') :
    0 < s / l.ns ∧ l'.ns = l.ns ∧ l'.B = l.B ∧ ∃ i, l'.nodes = l.spliceAt i (blockNodes m l.ns (s / l.ns)) := by
  unfold OrdList.insert at h
  split at h
  · next l1 pa hi =>
    cases h
    unfold OrdList.insertImpl at hi
    by_cases hk : s / l.ns = 0
    · rw [if_pos hk] at hi
      cases hi
    rw [if_neg hk] at hi
    by_cases ha : (cfg.assert && l.intervalAssertFails m) = true
    · rw [if_pos ha] at hi
      cases hi
    rw [if_neg ha] at hi
    cases hfp : l.findPos cfg.dblDealloc m with
    | pos prev next =>
      rw [hfp] at hi
      dsimp only at hi
      by_cases hnx : next ≠ prev + 1
      · rw [if_pos hnx] at hi
        cases hi
      · rw [if_neg hnx] at hi
        cases hi
        exact ⟨Nat.pos_of_ne_zero hk, rfl, rfl, prev, rfl⟩
    | report => rw [hfp] at hi; cases hi
    | unreachable => rw [hfp] at hi; cases hi
    | crash => rw [hfp] at hi; cases hi
  · cases h
  · cases h

theorem OrdList.allocateBytes_run (l l' : OrdList) (hI : l.Inv) (n x : Nat) (hn : l.ns < n)
    (h : l.allocateBytes n = some (l', some x)) :
    ∃ A B, l.nodes = A ++ blockNodes x l.ns (ceilNodes n l.ns) ++ B ∧ l'.nodes = A ++ B ∧ l'.Inv ∧
      l'.ns = l.ns ∧ l'.B = l.B ∧ l'.E = l.E := by
  have hns := hI.ns_pos
  unfold OrdList.allocateBytes at h
  rw [if_neg (Nat.not_le.2 hn)] at h
  split at h
  · cases h
  · split at h
    · cases h
    · rename_i start len hs
      obtain ⟨A, f, B, hnodes, rfl, hL, h2, hA, hB, hf⟩ := searchArray_split hns hn hs
      have hL1 : 1 ≤ len := Nat.le_of_succ_le h2
      have hlen : l.nodes.length = A.length + len + B.length := by
        rw [hnodes, List.length_append, List.length_append, blockNodes_length]
      have hfirst : l.nodes.getD A.length 0 = f := by rw [List.getD_eq_getElem?_getD, hf]; rfl
      have hlast : l.nodes.getD (A.length + len - 1) 0 = f + (len - 1) * l.ns := by
        rw [List.getD_eq_getElem?_getD, hnodes, Nat.add_sub_assoc hL1]
        exact congrArg (Option.getD · 0) (run_getElem? (Nat.sub_lt hL1 Nat.one_pos))
      -- `last` is the node at position `start + len`
      have hlastA : l.nodes.getD (A.length + len - 1) 0 = l.addr (A.length + len) :=
        (addr_node l (Nat.le_trans hL1 (Nat.le_add_left _ _)) (hlen ▸ Nat.le_add_right _ _)).symm
      simp only [Option.some.injEq, Prod.mk.injEq, hfirst, hA, hB] at h
      obtain ⟨hl', rfl⟩ := h
      -- the three cursor updates of the code are the three cases of `remove_run_inv`
      have hrem := fun l1 hr e1 e5 =>
        remove_run_inv (l := l) (l' := l1) (A := A) (R := blockNodes f l.ns len) (B' := B) hI hr e1 e5
      rw [blockNodes_length] at hrem
      refine ⟨A, B, hL ▸ hnodes, ?_⟩
      subst hl'
      let P := fun l1 : OrdList => l1.nodes = A ++ B ∧ l1.Inv ∧ l1.ns = l.ns ∧ l1.B = l.B ∧ l1.E = l.E
      refine ite_ind (P := P) (fun _ => ?_) fun hin => ite_ind (P := P) (fun hlp => ?_) fun hlp => ?_
      · exact ⟨rfl, hrem _ ⟨rfl, rfl, rfl, hnodes⟩ rfl rfl (Or.inl ⟨rfl, rfl⟩), rfl, rfl, rfl⟩
      · exact ⟨rfl, hrem _ ⟨rfl, rfl, rfl, hnodes⟩ rfl rfl (Or.inr (Or.inl ⟨rfl, rfl, hlp.trans hlastA⟩)), rfl, rfl, rfl⟩
      · -- `ld` is outside `[first, last]`, every cell of the run is inside
        exact ⟨rfl, hrem _ ⟨rfl, rfl, rfl, hnodes⟩ rfl rfl
          (Or.inr (Or.inr ⟨rfl, rfl, fun hmem => hin (hlast ▸ blockNodes_le_last hmem), hlastA ▸ hlp⟩)), rfl, rfl, rfl⟩

end MemVerif.Model
