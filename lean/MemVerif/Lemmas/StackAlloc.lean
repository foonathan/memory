import MemVerif.Model.StackFill
import MemVerif.Lemmas.StackArith
import MemVerif.Lemmas.Arena
/-!
`memory_stack::allocate` and `try_allocate` analysed once, for every state: the possible results, each with the debug
writes it makes (`AllocShape`, `TryShape`), and from that the forms in which runs are compared — `allocate_eq` (the result
as a function of the grow decision and the arena's answer) and `tryCore` (`try_allocate` as a function of the top pointer
and the used blocks). The grow decision and the two bump formulas get names so that the cases can be stated.
-/
namespace MemVerif.Model

/-- end of the usable part of the top block -/
def blkEnd (used : List Blk) : Option Nat := (used.head?.map Blk.usable).map fun b => b.base + b.size

theorem blockEnd_eq (s : MemStack) : s.blockEnd = blkEnd s.arena.used := rfl

theorem blkEnd_isSome {used : List Blk} (h : used ≠ []) : ∃ e, blkEnd used = some e := by
  cases used with
  | nil => exact absurd rfl h
  | cons b us => exact ⟨_, rfl⟩

/-- the grow decision of `memory_stack::allocate`: depends on `cur` and the used blocks only -/
def growDec (cfg : Cfg) (cur : Nat) (used : List Blk) (size align : Nat) : Option Bool :=
  if cur = 0 then some true
  else match blkEnd used with
    | none => none
    | some e => some (!fits cfg.fence (alignOff (cur + cfg.fence) align) size (sub64 e cur))

theorem growDec_ne_none {cfg : Cfg} {cur : Nat} {used : List Blk} (h : used ≠ []) {size align : Nat} :
    growDec cfg cur used size align ≠ none := by
  obtain ⟨e, he⟩ := blkEnd_isSome h
  unfold growDec
  rw [he]
  split <;> simp

/-- the address `allocate_unchecked` returns at the top `cur`, and the new top -/
def bumpPtr (cfg : Cfg) (cur align : Nat) : Nat :=
  cur + cfg.fence + alignOff (cur + cfg.fence) align
def bumpCur (cfg : Cfg) (cur size align : Nat) : Nat :=
  cur + cfg.fence + alignOff (cur + cfg.fence) align + size + cfg.fence

theorem add_fence_le_bumpPtr (cfg : Cfg) (cur align : Nat) : cur + cfg.fence ≤ bumpPtr cfg cur align :=
  Nat.le_add_right _ _

theorem le_bumpPtr (cfg : Cfg) (cur align : Nat) : cur ≤ bumpPtr cfg cur align :=
  Nat.le_trans (Nat.le_add_right _ _) (add_fence_le_bumpPtr cfg cur align)

theorem bumpPtr_add_le (cfg : Cfg) (cur size align : Nat) : bumpPtr cfg cur align + size ≤ bumpCur cfg cur size align :=
  Nat.le_add_right _ _

theorem le_bumpCur (cfg : Cfg) (cur size align : Nat) : cur ≤ bumpCur cfg cur size align :=
  Nat.le_trans (le_bumpPtr cfg cur align) (Nat.le_trans (Nat.le_add_right _ size) (bumpPtr_add_le ..))

/-- top and outcome after `allocate` entered the block `b` (its usable part): `needed` is checked against the whole block -/
def finishCur (cfg : Cfg) (b : Blk) (size align : Nat) : Nat :=
  if neededSat cfg.fence (alignOff (b.base + cfg.fence) align) size > b.size then b.base
  else bumpCur cfg b.base size align
def finishOut (cfg : Cfg) (b : Blk) (size align : Nat) : Out :=
  if neededSat cfg.fence (alignOff (b.base + cfg.fence) align) size > b.size then .throws .badSize
  else .ok (bumpPtr cfg b.base align)

theorem finishOut_ne (cfg : Cfg) (b : Blk) (size align : Nat) :
    finishOut cfg b size align ≠ .crash ∧ finishOut cfg b size align ≠ .envMissing := by
  unfold finishOut
  split <;> simp

theorem grow_fits (cfg : Cfg) (b : Blk) {size k : Nat} (hk : k < 48) (hsz : size < 2 ^ 64) (hf : cfg.fence ≤ 2 ^ 16)
    (hb : b.base + b.size ≤ 2 ^ 62)
    (hn : ¬ neededSat cfg.fence (alignOff (b.base + cfg.fence) (2 ^ k)) size > b.size) :
    bumpCur cfg b.base size (2 ^ k) ≤ b.base + b.size := by
  have hoff := (alignOff_spec (b.base + cfg.fence) k (Nat.lt_trans hk (by decide)) (by omega)).2
  have := neededSat_le hf (Nat.lt_trans hoff (two_pow_lt48 hk)) hsz (Nat.le_trans (Nat.le_add_left _ _) hb) hn
  unfold bumpCur
  omega

/-- the fill functions test `!cfg.fill` first -/
theorem ite_not_fill (cfg : Cfg) (fs : List FillOp) :
    (if (!cfg.fill) = true then [] else fs) = if cfg.fill then fs else [] := by
  cases cfg.fill
  · rfl
  · rfl

/-- **What `memory_stack::allocate` does**, every state, every answer of the arena: result `(state, outcome, upstream
events)` and debug writes. Only `bump` and `grow` serve the request, and only they write. -/
inductive AllocShape (cfg : Cfg) (s : MemStack) (size align : Nat) (env : List (Option Nat)) :
    MemStack × Out × List UpEv → List FillOp → Prop
  /-- no current block although the top is not null (moved-from stack with a stale top) -/
  | crash (hg : growDec cfg s.cur s.arena.used size align = none) : AllocShape cfg s size align env (s, .crash, []) []
  | bump (hg : growDec cfg s.cur s.arena.used size align = some false) : AllocShape cfg s size align env
      ({ s with cur := bumpCur cfg s.cur size align }, .ok (bumpPtr cfg s.cur align), [])
      (allocFills s.cur size (alignOff (s.cur + cfg.fence) align) cfg.fence)
  | envMissing (hg : growDec cfg s.cur s.arena.used size align = some true)
      (ha : s.arena.allocateBlock env = .envMissing) : AllocShape cfg s size align env (s, .envMissing, []) []
  | fail {e ev r} (hg : growDec cfg s.cur s.arena.used size align = some true)
      (ha : s.arena.allocateBlock env = .fail s.arena e ev r) : AllocShape cfg s size align env (s, .throws e, ev) []
  /-- the new block is too small even when empty: the stack stays in it with nothing allocated -/
  | badSize {a b ev r} (hg : growDec cfg s.cur s.arena.used size align = some true)
      (ha : s.arena.allocateBlock env = .ok a b ev r)
      (hn : neededSat cfg.fence (alignOff (b.base + cfg.fence) align) size > b.size) :
      AllocShape cfg s size align env ({ s with arena := a, cur := b.base }, .throws .badSize, ev) []
  | grow {a b ev r} (hg : growDec cfg s.cur s.arena.used size align = some true)
      (ha : s.arena.allocateBlock env = .ok a b ev r)
      (hn : ¬ neededSat cfg.fence (alignOff (b.base + cfg.fence) align) size > b.size) :
      AllocShape cfg s size align env
        ({ s with arena := a, cur := bumpCur cfg b.base size align }, .ok (bumpPtr cfg b.base align), ev)
        (allocFills b.base size (alignOff (b.base + cfg.fence) align) cfg.fence)

theorem MemStack.allocate_shape (cfg : Cfg) (s : MemStack) (size align : Nat) (env : List (Option Nat)) :
    ∃ fs, AllocShape cfg s size align env (s.allocate cfg size align env) fs ∧
      s.allocateFills cfg size align env = if cfg.fill then fs else [] := by
  unfold MemStack.allocate MemStack.allocateFills
  rw [ite_not_fill]
  dsimp only
  generalize hng : (if s.cur = 0 then some true
      else match s.blockEnd with
        | none => none
        | some e => some (!fits cfg.fence (alignOff (s.cur + cfg.fence) align) size (sub64 e s.cur))) = ng
  have hg : growDec cfg s.cur s.arena.used size align = ng := by
    rw [← hng, growDec, ← blockEnd_eq]
  cases ng with
  | none => exact ⟨_, .crash hg, rfl⟩
  | some g =>
    cases g with
    | false => exact ⟨_, .bump hg, rfl⟩
    | true =>
      dsimp only
      cases ha : s.arena.allocateBlock env with
      | envMissing => exact ⟨_, .envMissing hg ha, rfl⟩
      | fail a e ev r =>
        obtain ⟨rfl, _⟩ := Arena.allocateBlock_fail ha
        exact ⟨_, .fail hg ha, rfl⟩
      | ok a b ev r =>
        dsimp only
        by_cases hn : neededSat cfg.fence (alignOff (b.base + cfg.fence) align) size > b.size
        · rw [if_pos hn, if_pos hn]
          exact ⟨_, .badSize hg ha hn, rfl⟩
        · rw [if_neg hn, if_neg hn]
          exact ⟨_, .grow hg ha hn, rfl⟩

theorem allocate_eq (cfg : Cfg) (s : MemStack) (size align : Nat) (env : List (Option Nat)) :
    s.allocate cfg size align env =
      match growDec cfg s.cur s.arena.used size align with
      | none => (s, .crash, [])
      | some false => ({ s with cur := bumpCur cfg s.cur size align }, .ok (bumpPtr cfg s.cur align), [])
      | some true =>
        match s.arena.allocateBlock env with
        | .envMissing => (s, .envMissing, [])
        | .fail a e ev _ => ({ s with arena := a }, .throws e, ev)
        | .ok a b ev _ => ({ s with arena := a, cur := finishCur cfg b size align }, finishOut cfg b size align, ev) := by
  obtain ⟨fs, h, -⟩ := MemStack.allocate_shape cfg s size align env
  generalize s.allocate cfg size align env = res at h
  cases h with
  | crash hg => rw [hg]
  | bump hg => rw [hg]
  | envMissing hg ha => rw [hg, ha]
  | fail hg ha => rw [hg, ha]
  | badSize hg ha hn =>
    rw [hg, ha]
    dsimp only [finishCur, finishOut]
    rw [if_pos hn, if_pos hn]
  | grow hg ha hn =>
    rw [hg, ha]
    dsimp only [finishCur, finishOut]
    rw [if_neg hn, if_neg hn]

/-- what `memory_stack::try_allocate` does: result and debug writes -/
inductive TryShape (cfg : Cfg) (s : MemStack) (size align : Nat) : MemStack × Out → List FillOp → Prop
  | crash (he : s.blockEnd = none) : TryShape cfg s size align (s, .crash) []
  | null {e} (he : s.blockEnd = some e) (hfa : fixedAllocate s.cur e size align cfg.fence = none) :
      TryShape cfg s size align (s, .null) []
  | ok {e p c} (he : s.blockEnd = some e) (hfa : fixedAllocate s.cur e size align cfg.fence = some (p, c)) :
      TryShape cfg s size align ({ s with cur := c }, .ok p)
        (allocFills s.cur size (alignOff (s.cur + cfg.fence) align) cfg.fence)

theorem MemStack.tryAllocate_shape (cfg : Cfg) (s : MemStack) (size align : Nat) :
    ∃ fs, TryShape cfg s size align (s.tryAllocate cfg size align) fs ∧
      s.tryAllocateFills cfg size align = if cfg.fill then fs else [] := by
  unfold MemStack.tryAllocate MemStack.tryAllocateFills fixedAllocateFills
  rw [ite_not_fill]
  cases he : s.blockEnd with
  | none => exact ⟨_, .crash he, rfl⟩
  | some e =>
    dsimp only
    cases hfa : fixedAllocate s.cur e size align cfg.fence with
    | none => exact ⟨_, .null he hfa, rfl⟩
    | some pc => exact ⟨_, .ok he hfa, rfl⟩

/-- `try_allocate` as a function of the top pointer and the used blocks only: `(new top, outcome)` -/
def tryCore (cfg : Cfg) (cur : Nat) (used : List Blk) (size align : Nat) : Nat × Out :=
  match blkEnd used with
  | none => (cur, .crash)
  | some e =>
    match fixedAllocate cur e size align cfg.fence with
    | none => (cur, .null)
    | some (p, c) => (c, .ok p)

theorem tryAllocate_core (cfg : Cfg) (s : MemStack) (size align : Nat) :
    s.tryAllocate cfg size align =
      ({ s with cur := (tryCore cfg s.cur s.arena.used size align).1 }, (tryCore cfg s.cur s.arena.used size align).2) := by
  unfold MemStack.tryAllocate tryCore
  rw [blockEnd_eq]
  cases blkEnd s.arena.used with
  | none => rfl
  | some e =>
    dsimp only
    cases fixedAllocate s.cur e size align cfg.fence <;> rfl

theorem tryCore_spec (cfg : Cfg) (cur : Nat) (used : List Blk) (size align : Nat) :
    cur ≤ (tryCore cfg cur used size align).1 ∧ (used ≠ [] → (tryCore cfg cur used size align).2 ≠ .crash) := by
  unfold tryCore
  cases he : blkEnd used with
  | none => exact ⟨Nat.le_refl _, fun h => nomatch he.symm.trans (blkEnd_isSome h).choose_spec⟩
  | some e =>
    dsimp only
    cases hfa : fixedAllocate cur e size align cfg.fence with
    | none => exact ⟨Nat.le_refl _, fun _ => nofun⟩
    | some pc =>
      obtain ⟨p, c⟩ := pc
      obtain ⟨rfl, rfl⟩ := fixedAllocate_some hfa
      exact ⟨le_bumpCur cfg cur size align, fun _ => nofun⟩

end MemVerif.Model
