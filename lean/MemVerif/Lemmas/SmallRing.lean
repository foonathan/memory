import MemVerif.Lemmas.SmallList
/-!
The ring of chunks of the small list (`SmallRing`) and completeness of the chunk search on it: positions and addresses
agree in order, so the address of the release cursor sends the two-cursor walk to the side where the chunk is
(soundness and termination need no ring: `findChunk_ok`). The ring depends only on the geometry of the chunks
(`ring_transport`), so `allocate` and `deallocate`, which change free chains only, keep it; `insert` keeps it because it
builds its chunks in ascending order inside the new range and links them in where they belong (`SmallRing.insert`).
-/
namespace MemVerif.Model

/-- ring invariant needed by the search: chunks in ascending address order with disjoint extents, both cursors point at
the proxy or at a chunk, and the proxy word (inside the list object) lies in no chunk -/
structure SmallRing (l : SmallList) : Prop where
  sorted : ∀ (i j : Nat) (ci cj : Chunk), l.chunks[i]? = some ci → l.chunks[j]? = some cj → i < j → ci.endOf l.ns ≤ cj.base
  cursorD : ∃ d, l.posOf l.deallocChunk = some d
  cursorA : ∃ a, l.posOf l.allocChunk = some a
  proxyOut : ∀ c ∈ l.chunks, l.P < c.base ∨ c.endOf l.ns ≤ l.P

/-! ### ring positions: the proxy is position 0, the chunk with index `i` is position `i + 1` -/

theorem addrAt_succ (l : SmallList) {i : Nat} {c : Chunk} (h : l.chunks[i]? = some c) : l.addrAt (i + 1) = c.base := by
  simp [SmallList.addrAt, h]

theorem pos_chunk (l : SmallList) {d : Nat} (h1 : 1 ≤ d) (hL : d ≤ l.chunks.length) :
    ∃ i c, d = i + 1 ∧ l.chunks[i]? = some c :=
  have h : d - 1 < l.chunks.length := Nat.sub_one_lt_of_le h1 hL
  ⟨d - 1, l.chunks[d - 1], (Nat.sub_add_cancel h1).symm, List.getElem?_eq_getElem h⟩

theorem posOf_eq_some {l : SmallList} {a d : Nat} (h : l.posOf a = some d) :
    (d = 0 ∧ a = l.P) ∨ ∃ i c, d = i + 1 ∧ l.chunks[i]? = some c ∧ c.base = a := by
  unfold SmallList.posOf at h
  split at h
  · rename_i hP
    exact Or.inl ⟨(Option.some.inj h).symm, hP⟩
  · obtain ⟨i, hi, rfl⟩ := Option.map_eq_some_iff.1 h
    obtain ⟨hlt, hp, _⟩ := List.findIdx?_eq_some_iff_getElem.1 hi
    exact Or.inr ⟨i, _, rfl, List.getElem?_eq_getElem hlt, of_decide_eq_true hp⟩

theorem smallPosOf_le (l : SmallList) {a d : Nat} (h : l.posOf a = some d) : d ≤ l.chunks.length := by
  rcases posOf_eq_some h with ⟨rfl, _⟩ | ⟨i, c, rfl, hc, _⟩
  · exact Nat.zero_le _
  · exact (List.getElem?_eq_some_iff.1 hc).1

theorem smallPosOf_addr (l : SmallList) (a d : Nat) (h : l.posOf a = some d) : l.addrAt d = a := by
  rcases posOf_eq_some h with ⟨rfl, rfl⟩ | ⟨i, c, rfl, hc, rfl⟩
  · rfl
  · exact addrAt_succ l hc

theorem posOf_isSome (l : SmallList) (a : Nat) :
    (∃ d, l.posOf a = some d) ↔ a = l.P ∨ ∃ c ∈ l.chunks, c.base = a := by
  constructor
  · rintro ⟨d, hd⟩
    rcases posOf_eq_some hd with ⟨_, h⟩ | ⟨i, c, _, hc, e⟩
    · exact Or.inl h
    · exact Or.inr ⟨c, List.mem_of_getElem? hc, e⟩
  · intro h
    rw [← Option.isSome_iff_exists]
    unfold SmallList.posOf
    split
    · rfl
    · rename_i hP
      rcases h with h | ⟨c, hc, e⟩
      · exact absurd h hP
      · rw [Option.isSome_map, List.findIdx?_isSome]
        exact List.any_eq_true.2 ⟨c, hc, decide_eq_true e⟩

theorem addrAt_lt (l : SmallList) (hR : SmallRing l) {x y : Nat} (hx : 1 ≤ x) (hxy : x < y) (hy : y ≤ l.chunks.length) :
    l.addrAt x < l.addrAt y := by
  obtain ⟨i, ci, rfl, hi⟩ := pos_chunk l hx (Nat.le_trans (Nat.le_of_lt hxy) hy)
  obtain ⟨j, cj, rfl, hj⟩ := pos_chunk l (Nat.le_trans hx (Nat.le_of_lt hxy)) hy
  rw [addrAt_succ l hi, addrAt_succ l hj]
  exact Nat.lt_of_lt_of_le (ci.base_lt_endOf l.ns) (hR.sorted i j ci cj hi hj (Nat.lt_of_succ_lt_succ hxy))

theorem addrAt_mono (l : SmallList) (hR : SmallRing l) {x y : Nat} (hx : 1 ≤ x) (hxy : x ≤ y) (hy : y ≤ l.chunks.length) :
    l.addrAt x ≤ l.addrAt y := by
  rcases Nat.eq_or_lt_of_le hxy with rfl | h
  · exact Nat.le_refl _
  · exact Nat.le_of_lt (addrAt_lt l hR hx h hy)

theorem fromAt_pos (l : SmallList) {j p : Nat} (hj : l.fromAt j p = true) :
    1 ≤ j ∧ j ≤ l.chunks.length ∧ l.addrAt j < p := by
  obtain ⟨i, c, rfl, hc, h1, _⟩ := fromAt_iff.1 hj
  rw [addrAt_succ l hc]
  exact ⟨Nat.succ_pos i, (List.getElem?_eq_some_iff.1 hc).1, Nat.lt_of_lt_of_le (Nat.lt_add_of_pos_right chunkOff_pos) h1⟩

theorem lt_addrAt_of_lt (l : SmallList) (hR : SmallRing l) {p j d : Nat} (hj : l.fromAt j p = true) (hjd : j < d)
    (hd : d ≤ l.chunks.length) : p < l.addrAt d := by
  obtain ⟨i, c, rfl, hc, _, h2⟩ := fromAt_iff.1 hj
  obtain ⟨k, ck, rfl, hk⟩ := pos_chunk l (Nat.le_trans (Nat.succ_pos i) (Nat.le_of_lt hjd)) hd
  rw [addrAt_succ l hk]
  exact Nat.lt_of_lt_of_le h2 (hR.sorted i k c ck hc hk (Nat.lt_of_succ_lt_succ hjd))

theorem addrAt_lt_of_lt (l : SmallList) (hR : SmallRing l) {p j d : Nat} (hj : l.fromAt j p = true) (hd : 1 ≤ d) (hdj : d < j) :
    l.addrAt d < p :=
  Nat.lt_trans (addrAt_lt l hR hd hdj (fromAt_pos l hj).2.1) (fromAt_pos l hj).2.2

theorem fromAt_unique (l : SmallList) (hR : SmallRing l) {j k p : Nat} (hj : l.fromAt j p = true) (hk : l.fromAt k p = true) :
    j = k := by
  -- the later of two chunks would start both above and below `p`
  have key : ∀ j k, l.fromAt j p = true → l.fromAt k p = true → ¬ j < k := fun j k hj hk h =>
    Nat.lt_asymm (lt_addrAt_of_lt l hR hj h (fromAt_pos l hk).2.1) (fromAt_pos l hk).2.2
  exact Nat.le_antisymm (Nat.not_lt.1 (key k j hk hj)) (Nat.not_lt.1 (key j k hj hk))

theorem ring_next {L d : Nat} (h : d < L) : (d + 1) % (L + 1) = d + 1 := Nat.mod_eq_of_lt (Nat.succ_lt_succ h)

theorem ring_prev {L d : Nat} (h1 : 1 ≤ d) (h : d ≤ L) : (d + (L + 1) - 1) % (L + 1) = d - 1 := by
  rw [Nat.sub_add_comm h1, Nat.add_mod_right]
  exact Nat.mod_eq_of_lt (Nat.lt_succ_of_le (Nat.le_trans (Nat.sub_le d 1) h))

theorem ring_prev_zero (L : Nat) : (0 + (L + 1) - 1) % (L + 1) = L := by
  rw [Nat.zero_add, Nat.add_sub_cancel]; exact Nat.mod_eq_of_lt (Nat.lt_succ_self L)

theorem findChunkRange_go_complete (l : SmallList) (hR : SmallRing l) (p j : Nat) (hj : l.fromAt j p = true) :
    ∀ (fuel f b : Nat), 1 ≤ f → f ≤ j → j ≤ b → b ≤ l.chunks.length → b < f + fuel →
      SmallList.findChunkRange.go l p (l.chunks.length + 1) fuel f b = .found j := by
  intro fuel
  induction fuel with
  | zero => intro f b _ hfj hjb _ h; exact absurd h (Nat.not_lt.2 (Nat.le_trans hfj hjb))
  | succ fuel ih =>
    intro f b hf1 hfj hjb hbL hfuel
    unfold SmallList.findChunkRange.go
    by_cases h1 : l.fromAt f p = true
    · rw [if_pos h1, fromAt_unique l hR h1 hj]
    · by_cases h2 : l.fromAt b p = true
      · rw [if_neg h1, if_pos h2, fromAt_unique l hR h2 hj]
      · -- `j` is strictly between the cursors, so they do not cross and neither reaches the proxy
        have hfj' : f + 1 ≤ j := Nat.lt_of_le_of_ne hfj fun h => h1 (h ▸ hj)
        have hjb' : j ≤ b - 1 := Nat.le_sub_one_of_lt (Nat.lt_of_le_of_ne hjb fun h => h2 (h ▸ hj))
        have hbL' : b - 1 ≤ l.chunks.length := Nat.le_trans (Nat.sub_le b 1) hbL
        have hmono := addrAt_mono l hR (Nat.succ_pos f) (Nat.le_trans hfj' hjb') hbL'
        have hcond : (decide (l.addrAt (f + 1) > l.addrAt (b - 1)) || (f + 1 == 0) || (b - 1 == 0)) = false := by
          rw [decide_eq_false (Nat.not_lt.2 hmono), beq_false_of_ne (Nat.succ_ne_zero f),
            beq_false_of_ne (Nat.ne_of_gt (Nat.lt_of_lt_of_le (Nat.succ_pos f) (Nat.le_trans hfj' hjb')))]
          rfl
        rw [if_neg h1, if_neg h2]
        simp only [ring_next (Nat.lt_of_lt_of_le hfj' (Nat.le_trans hjb hbL)), ring_prev (Nat.le_trans hf1 (Nat.le_trans hfj hjb)) hbL,
          hcond, Bool.false_eq_true, ↓reduceIte]
        exact ih (f + 1) (b - 1) (Nat.succ_pos f) hfj' hjb' hbL'
          (Nat.lt_of_le_of_lt (Nat.sub_le b 1) (Nat.add_right_comm f fuel 1 ▸ hfuel))

theorem findChunkRange_complete (l : SmallList) (hR : SmallRing l) (p j : Nat) (hj : l.fromAt j p = true) (f b : Nat)
    (hf : 1 ≤ f) (hfj : f ≤ j) (hjb : j ≤ b) (hb : b ≤ l.chunks.length) : l.findChunkRange p f b = .found j :=
  findChunkRange_go_complete l hR p j hj _ f b hf hfj hjb hb (by omega)

/-- **Completeness of `find_chunk_impl(node)`**: a pointer inside the node area of the chunk at ring position `j` is found,
for every position of the two cursors (proxy or any chunk). -/
theorem findChunk_complete (l : SmallList) (hR : SmallRing l) (p j : Nat) (hj : l.fromAt j p = true) :
    l.findChunk p = .found j := by
  obtain ⟨hj0, hjL, _⟩ := fromAt_pos l hj
  obtain ⟨d, hd⟩ := hR.cursorD
  obtain ⟨a, ha⟩ := hR.cursorA
  have hdL := smallPosOf_le l hd
  unfold SmallList.findChunk
  simp only [hd, ha]
  by_cases h1 : l.fromAt d p = true
  · rw [if_pos h1, fromAt_unique l hR h1 hj]
  · by_cases h2 : l.fromAt a p = true
    · rw [if_neg h1, if_pos h2, fromAt_unique l hR h2 hj]
    · rw [if_neg h1, if_neg h2]
      have hdj : d ≠ j := fun h => h1 (h ▸ hj)
      -- the release cursor is the proxy, or a chunk below or above chunk `j`; its address tells which
      rcases Nat.eq_zero_or_pos d with rfl | hdpos
      · have hP : l.addrAt 0 = l.P := rfl
        have hPne : l.P ≠ p := by
          obtain ⟨i, cj, _, hcj, hj1, hj2⟩ := fromAt_iff.1 hj
          rintro rfl
          exact (hR.proxyOut cj (List.mem_of_getElem? hcj)).elim
            (fun h => Nat.lt_irrefl _ (Nat.lt_of_lt_of_le h (Nat.le_trans (Nat.le_add_right _ _) hj1)))
            (fun h => Nat.lt_irrefl _ (Nat.lt_of_lt_of_le hj2 h))
        -- both comparisons of `p` with the proxy send the walk over the whole ring
        have key := findChunkRange_complete l hR p j hj 1 _ (Nat.le_refl _) hj0 hjL (Nat.le_refl _)
        rw [hP, ring_prev_zero, ring_next (Nat.lt_of_lt_of_le hj0 hjL)]
        split
        · exact key
        · rename_i h
          rw [if_pos (Nat.lt_of_le_of_ne (Nat.not_lt.1 h) hPne.symm)]
          exact key
      · rcases Nat.lt_or_gt_of_ne hdj with hlt | hgt
        · rw [if_pos (addrAt_lt_of_lt l hR hj hdpos hlt), ring_next (Nat.lt_of_lt_of_le hlt hjL), ring_prev_zero]
          exact findChunkRange_complete l hR p j hj _ _ (Nat.succ_pos d) hlt hjL (Nat.le_refl _)
        · have := lt_addrAt_of_lt l hR hj hgt hdL
          rw [if_neg (Nat.lt_asymm this), if_pos this, ring_prev hdpos hdL,
            Nat.mod_eq_of_lt (Nat.succ_lt_succ (Nat.lt_of_lt_of_le hj0 hjL))]
          exact findChunkRange_complete l hR p j hj 1 _ (Nat.le_refl _) hj0 (Nat.le_sub_one_of_lt hgt)
            (Nat.le_trans (Nat.sub_le d 1) hdL)

/-- chunk extents in list order: each ends before the next begins -/
def ChunksSorted (ns : Nat) (cs : List Chunk) : Prop := cs.Pairwise fun a b => a.endOf ns ≤ b.base

theorem chunksSorted_iff (l : SmallList) :
    (∀ (i j : Nat) (ci cj : Chunk), l.chunks[i]? = some ci → l.chunks[j]? = some cj → i < j → ci.endOf l.ns ≤ cj.base) ↔
      ChunksSorted l.ns l.chunks := by
  unfold ChunksSorted
  rw [List.pairwise_iff_getElem]
  constructor
  · intro h i j hi hj hij
    exact h i j _ _ (List.getElem?_eq_getElem hi) (List.getElem?_eq_getElem hj) hij
  · intro h i j ci cj hci hcj hij
    obtain ⟨hi, rfl⟩ := List.getElem?_eq_some_iff.1 hci
    obtain ⟨hj, rfl⟩ := List.getElem?_eq_some_iff.1 hcj
    exact h i j hi hj hij

/-- the geometry of a chunk: where it is and how many nodes it has -/
def Chunk.geo (c : Chunk) : Nat × Nat := (c.base, c.noNodes)

theorem Chunk.endOf_geo {c c' : Chunk} (h : c'.geo = c.geo) (ns : Nat) : c'.endOf ns = c.endOf ns := by
  unfold Chunk.endOf
  rw [show c'.base = c.base from congrArg Prod.fst h, show c'.noNodes = c.noNodes from congrArg Prod.snd h]

theorem geo_mem {cs cs' : List Chunk} (hg : cs'.map Chunk.geo = cs.map Chunk.geo) {c : Chunk} (hc : c ∈ cs) :
    ∃ c' ∈ cs', c'.geo = c.geo :=
  List.mem_map.mp (hg ▸ List.mem_map.mpr ⟨c, hc, rfl⟩)

theorem ChunksSorted.congr_geo {ns : Nat} {cs cs' : List Chunk} (hg : cs'.map Chunk.geo = cs.map Chunk.geo)
    (h : ChunksSorted ns cs) : ChunksSorted ns cs' := by
  have h1 : (cs.map Chunk.geo).Pairwise (fun a b => a.1 + chunkOff + a.2 * ns ≤ b.1) := by
    rw [List.pairwise_map]; exact h
  rw [← hg, List.pairwise_map] at h1
  exact h1

/-- a valid cursor, or the base of a chunk, is a valid cursor of every list with the same proxy that has a chunk at
each of the old chunk bases -/
theorem cursor_valid {l l' : SmallList} (hP : l'.P = l.P) (hb : ∀ c ∈ l.chunks, ∃ c' ∈ l'.chunks, c'.base = c.base)
    {a a' : Nat} (h : a' = a ∨ ∃ c ∈ l.chunks, a' = c.base) (hd : ∃ d, l.posOf a = some d) :
    ∃ d, l'.posOf a' = some d := by
  rw [posOf_isSome] at hd ⊢
  rw [hP]
  rcases h with rfl | ⟨c, hc, rfl⟩
  · rcases hd with h | ⟨c, hc, rfl⟩
    · exact Or.inl h
    · exact Or.inr (hb c hc)
  · exact Or.inr (hb c hc)

theorem ring_transport {l l' : SmallList} (hR : SmallRing l) (hP : l'.P = l.P) (hns : l'.ns = l.ns)
    (hg : l'.chunks.map Chunk.geo = l.chunks.map Chunk.geo)
    (hA : l'.allocChunk = l.allocChunk ∨ ∃ c ∈ l.chunks, l'.allocChunk = c.base)
    (hD : l'.deallocChunk = l.deallocChunk ∨ ∃ c ∈ l.chunks, l'.deallocChunk = c.base) : SmallRing l' := by
  have hb : ∀ c ∈ l.chunks, ∃ c' ∈ l'.chunks, c'.base = c.base := fun c hc =>
    let ⟨c', hc', e⟩ := geo_mem hg hc
    ⟨c', hc', congrArg Prod.fst e⟩
  refine ⟨?_, cursor_valid hP hb hD hR.cursorD, cursor_valid hP hb hA hR.cursorA, ?_⟩
  · rw [chunksSorted_iff, hns]
    exact ChunksSorted.congr_geo hg ((chunksSorted_iff l).mp hR.sorted)
  · intro c' hc'
    obtain ⟨c, hc, e⟩ := geo_mem hg.symm hc'
    rw [hP, hns, ← Chunk.endOf_geo e, show c'.base = c.base from (congrArg Prod.fst e).symm]
    exact hR.proxyOut c hc

theorem geo_set {cs : List Chunk} {i : Nat} {c c' : Chunk} (hc : cs[i]? = some c) (hg : c'.geo = c.geo) :
    (cs.set i c').map Chunk.geo = cs.map Chunk.geo := by
  obtain ⟨hlt, rfl⟩ := List.getElem?_eq_some_iff.1 hc
  rw [List.map_set, hg, ← List.getElem_map Chunk.geo (h := by rwa [List.length_map]), List.set_getElem_self]

theorem Chunk.make_extent (base total ns : Nat) (h : chunkOff ≤ total) :
    (Chunk.make base total ns).base = base ∧ (Chunk.make base total ns).endOf ns ≤ base + total :=
  ⟨rfl, calc base + chunkOff + (total - chunkOff) / ns % 256 * ns
      ≤ base + chunkOff + (total - chunkOff) / ns * ns := Nat.add_le_add_left (Nat.mul_le_mul_right _ (Nat.mod_le _ _)) _
    _ ≤ base + chunkOff + (total - chunkOff) := Nat.add_le_add_left (Nat.div_mul_le_self _ _) _
    _ = base + total := by rw [Nat.add_assoc, Nat.add_sub_cancel' h]⟩

theorem smallInsertChunks_geo (ns mem size : Nat) :
    ChunksSorted ns (smallInsertChunks ns mem size).1 ∧
    (∀ c ∈ (smallInsertChunks ns mem size).1, mem ≤ c.base ∧ c.endOf ns ≤ mem + size) ∧
    (∀ b bs, (smallInsertChunks ns mem size).1 = b :: bs → b.base = mem) := by
  obtain ⟨n, tot, hcs, htot⟩ := smallInsertChunks_family ns mem size
  rw [hcs]
  have hext : ∀ i, i < n → (Chunk.make (mem + i * smallStride ns) (tot i) ns).endOf ns ≤ mem + (i * smallStride ns + tot i) :=
    fun i hi => Nat.add_assoc mem _ (tot i) ▸ (Chunk.make_extent _ _ ns (htot i hi).1).2
  refine ⟨?_, ?_, ?_⟩
  · unfold ChunksSorted
    rw [List.pairwise_map]
    refine (List.pairwise_lt_range (n := n)).imp_of_mem ?_
    intro a b ha hb hab
    -- chunk `a` ends within its stride, chunk `b` starts at least one stride later
    have : a * smallStride ns + smallStride ns ≤ b * smallStride ns := Nat.succ_mul a _ ▸ Nat.mul_le_mul_right _ hab
    exact Nat.le_trans (hext a (List.mem_range.1 ha))
      (Nat.add_le_add_left (Nat.le_trans (Nat.add_le_add_left (htot a (List.mem_range.1 ha)).2.1 _) this) mem)
  · intro c hc
    obtain ⟨i, hi, rfl⟩ := List.mem_map.1 hc
    exact ⟨Nat.le_add_right _ _,
      Nat.le_trans (hext i (List.mem_range.1 hi)) (Nat.add_le_add_left (htot i (List.mem_range.1 hi)).2.2 mem)⟩
  · intro b bs hb
    cases n with
    | zero => cases hb
    | succ n =>
      rw [List.range_succ_eq_map, List.map_cons] at hb
      rw [← (List.cons.inj hb).1]
      show mem + 0 * _ = mem
      rw [Nat.zero_mul, Nat.add_zero]

/-- `insert_chunks` keeps the ring sorted: a sorted run of new chunks that lies in `[lo, hi)` and starts at `lo` goes between
the old chunks below `lo` and those from `hi` on, provided no old chunk meets `[lo, hi)` -/
theorem insertSorted_sorted {ns : Nat} {cs new : List Chunk} {lo hi : Nat} (hcs : ChunksSorted ns cs)
    (hnew : ChunksSorted ns new) (hin : ∀ c ∈ new, lo ≤ c.base ∧ c.endOf ns ≤ hi)
    (hhead : ∀ b bs, new = b :: bs → b.base = lo) (hout : ∀ c ∈ cs, c.endOf ns ≤ lo ∨ hi ≤ c.base) :
    ChunksSorted ns (insertSorted cs new) := by
  cases new with
  | nil => exact hcs
  | cons b0 bs =>
    obtain rfl : b0.base = lo := hhead b0 bs rfl
    have hlohi : b0.base < hi := Nat.lt_of_lt_of_le (b0.base_lt_endOf ns) (hin b0 List.mem_cons_self).2
    -- the old chunks that start below the first new one end below it; the others start from `hi` on
    have hbefore : ∀ x ∈ cs.takeWhile (fun c => c.base < b0.base), x.endOf ns ≤ b0.base := fun x hx =>
      (hout x (List.takeWhile_subset _ hx)).resolve_right fun h =>
        Nat.lt_asymm hlohi (Nat.lt_of_le_of_lt h (of_decide_eq_true (List.all_eq_true.1 List.all_takeWhile x hx)))
    have hrest : ∀ y ∈ cs.dropWhile (fun c => c.base < b0.base), hi ≤ y.base := fun y hy =>
      (hout y ((List.dropWhile_sublist _).subset hy)).resolve_left fun h =>
        of_decide_eq_false (List.dropWhile_all_not hcs (fun a b hab hb => decide_eq_true
            (Nat.lt_trans (Nat.lt_of_lt_of_le (a.base_lt_endOf ns) hab) (of_decide_eq_true hb))) y hy)
          (Nat.lt_of_lt_of_le (y.base_lt_endOf ns) h)
    rw [insertSorted_cons, ChunksSorted, List.pairwise_append, List.pairwise_append]
    rw [ChunksSorted, ← List.takeWhile_append_dropWhile (p := fun c : Chunk => decide (c.base < b0.base)) (l := cs),
      List.pairwise_append] at hcs
    refine ⟨⟨hcs.1, hnew, fun x hx c hc => Nat.le_trans (hbefore x hx) (hin c hc).1⟩, hcs.2.1, fun x hx y hy => ?_⟩
    rcases List.mem_append.mp hx with hx | hx
    · exact hcs.2.2 x hx y hy
    · exact Nat.le_trans (hin x hx).2 (hrest y hy)

theorem SmallRing.insert {l l' : SmallList} {mem size : Nat} (hR : SmallRing l)
    (hout : ∀ c ∈ l.chunks, c.endOf l.ns ≤ mem ∨ mem + size ≤ c.base) (hP : mem + size ≤ l.P ∨ l.P < mem)
    (h : l.insert mem size = some l') : SmallRing l' := by
  obtain ⟨hgs, hgin, hghead⟩ := smallInsertChunks_geo l.ns mem size
  have hmem := insertSorted_mem l.chunks (smallInsertChunks l.ns mem size).1
  rw [SmallList.insert_shape h]
  -- a valid cursor stays valid: no chunk goes away
  have cursor := fun a => cursor_valid (l := l) (a := a) (l' := { l with
      chunks := insertSorted l.chunks (smallInsertChunks l.ns mem size).1,
      cap := l.cap + (smallInsertChunks l.ns mem size).2 }) rfl (fun c hc => ⟨c, (hmem c).mpr (Or.inl hc), rfl⟩) (Or.inl rfl)
  refine ⟨(chunksSorted_iff _).mpr (insertSorted_sorted ((chunksSorted_iff l).mp hR.sorted) hgs hgin hghead hout),
    cursor _ hR.cursorD, cursor _ hR.cursorA, fun c hc => ?_⟩
  rcases (hmem c).mp hc with h1 | h1
  · exact hR.proxyOut c h1
  · exact hP.symm.imp (fun h => Nat.lt_of_lt_of_le h (hgin c h1).1) (Nat.le_trans (hgin c h1).2)

theorem SmallList.deallocate_valid (cfg : Cfg) {l : SmallList} (hR : SmallRing l) {i : Nat} {c : Chunk} {p : Nat}
    (hc : l.chunks[i]? = some c) (harea : c.base + chunkOff ≤ p ∧ p < c.base + chunkOff + c.noNodes * l.ns)
    (hbound : (p - (c.base + chunkOff)) % l.ns = 0) (hlive : (p - (c.base + chunkOff)) / l.ns ∉ c.free) :
    l.deallocate cfg p = .ok (l.deallocResult i c p) := by
  have hfind := findChunk_complete l hR p (i + 1) (fromAt_iff.2 ⟨i, c, rfl, hc, harea⟩)
  have : c.free.contains ((p - (c.base + chunkOff)) / l.ns) = false := by simpa using hlive
  unfold SmallList.deallocate
  rw [hfind]
  simp only [hc, hbound, this, ne_eq, not_true_eq_false, decide_false, Bool.and_false, Bool.false_eq_true, ↓reduceIte]

theorem SmallRing.deallocResult {l : SmallList} (hR : SmallRing l) {i : Nat} {c : Chunk} (p : Nat)
    (hc : l.chunks[i]? = some c) : SmallRing (l.deallocResult i c p) :=
  ring_transport hR rfl rfl (geo_set hc rfl) (Or.inl rfl) (Or.inr ⟨c, List.mem_of_getElem? hc, rfl⟩)

end MemVerif.Model
