import MemVerif.Model.ListInv
import MemVerif.Lemmas.Bits
import MemVerif.Lemmas.Util
/-!
C01, list level: cells (`[x, x + ns)` for a node address `x`), runs of consecutive cells (`blockNodes`), the cell count
`ceilNodes` used by `deallocate(ptr, n)`, an interval beside a run (`span_disjoint`), the array search of the intrusive
lists, and what the unordered list's `insert_impl`, `allocate()`, `allocate(n)` do where they succeed.
Facts about `List Nat` and `FreeList`; no pool state.
-/
namespace MemVerif.Model

theorem intrusiveNodeSize_eq (ns : Nat) : intrusiveNodeSize ns = max ns 8 := Bits.ite_gt_eq_max ns 8

theorem intrusiveNodeSize_ge (ns : Nat) : ns ≤ intrusiveNodeSize ns ∧ 8 ≤ intrusiveNodeSize ns := by
  rw [intrusiveNodeSize_eq]
  exact ⟨Nat.le_max_left _ _, Nat.le_max_right _ _⟩

theorem intrusiveNodeSize_pos (ns : Nat) : 0 < intrusiveNodeSize ns :=
  Nat.lt_of_lt_of_le (by decide) (intrusiveNodeSize_ge ns).2

/-- the cells at `x` and `y` (both `ns` bytes) do not overlap -/
def Apart (ns x y : Nat) : Prop := x + ns ≤ y ∨ y + ns ≤ x

theorem Apart.symm {ns x y : Nat} (h : Apart ns x y) : Apart ns y x := Or.symm h

instance (ns x y : Nat) : Decidable (Apart ns x y) := by unfold Apart; exact inferInstance

/-- number of cells an allocation of `b` bytes occupies: one for a node, `ceil(b / ns)` for an array -/
def cellsOf (ns b : Nat) : Nat := if b ≤ ns then 1 else ceilNodes b ns

theorem ceilNodes_le_iff {b ns k : Nat} (hns : 0 < ns) : ceilNodes b ns ≤ k ↔ b ≤ k * ns :=
  Nat.ceilDiv_le_iff hns

theorem le_ceilNodes_mul (b ns : Nat) (hns : 0 < ns) : b ≤ ceilNodes b ns * ns :=
  (ceilNodes_le_iff hns).1 (Nat.le_refl _)

theorem ceilNodes_unique {b ns L : Nat} (hns : 0 < ns) (h1 : (L - 1) * ns < b) (h2 : b ≤ L * ns) :
    ceilNodes b ns = L := by
  apply Nat.le_antisymm ((ceilNodes_le_iff hns).2 h2)
  apply Nat.le_of_pred_lt
  exact Nat.lt_of_not_le fun h => Nat.not_le.2 h1 ((ceilNodes_le_iff hns).1 h)

theorem ceilNodes_pos {b ns : Nat} (hns : 0 < ns) (hb : 0 < b) : 0 < ceilNodes b ns :=
  Nat.lt_of_not_le fun h => Nat.not_le.2 hb (Nat.zero_mul ns ▸ (ceilNodes_le_iff hns).1 h)

theorem cellsOf_pos (ns b : Nat) (hns : 0 < ns) : 0 < cellsOf ns b := by
  unfold cellsOf
  split
  · exact Nat.one_pos
  · next h => exact ceilNodes_pos hns (Nat.zero_lt_of_lt (Nat.lt_of_not_le h))

theorem le_cellsOf_mul (ns b : Nat) (hns : 0 < ns) : b ≤ cellsOf ns b * ns := by
  unfold cellsOf
  split
  · next h => rwa [Nat.one_mul]
  · exact le_ceilNodes_mul b ns hns

theorem cellsOf_node (ns : Nat) : cellsOf ns ns = 1 := by simp [cellsOf]

theorem cellsOf_mul (ns n : Nat) (hns : 0 < ns) (hn : 0 < n) : cellsOf ns (n * ns) = n := by
  unfold cellsOf
  split
  · next h => exact Nat.le_antisymm hn (Nat.le_of_mul_le_mul_right (by rwa [Nat.one_mul]) hns)
  · exact ceilNodes_unique hns (Nat.mul_lt_mul_of_pos_right (Nat.sub_lt hn Nat.one_pos) hns) (Nat.le_refl _)

/-- normal form: the list facts below are those of `List.range` -/
theorem blockNodes_eq_map (mem ns k : Nat) : blockNodes mem ns k = (List.range k).map (fun j => mem + j * ns) := by
  induction k generalizing mem with
  | zero => rfl
  | succ k ih =>
    rw [blockNodes, ih, List.range_succ_eq_map, List.map_cons, List.map_map, Nat.zero_mul, Nat.add_zero]
    congr 1
    apply List.map_congr_left
    intro j _
    show mem + ns + j * ns = mem + (j + 1) * ns
    rw [Nat.succ_mul, Nat.add_assoc, Nat.add_comm ns]

@[simp] theorem blockNodes_length (mem ns k : Nat) : (blockNodes mem ns k).length = k := by
  rw [blockNodes_eq_map, List.length_map, List.length_range]

theorem mem_blockNodes {mem ns k x : Nat} : x ∈ blockNodes mem ns k ↔ ∃ j, j < k ∧ x = mem + j * ns := by
  simp only [blockNodes_eq_map, List.mem_map, List.mem_range, eq_comm]

theorem blockNodes_getElem? {mem ns k j : Nat} (hj : j < k) : (blockNodes mem ns k)[j]? = some (mem + j * ns) := by
  rw [blockNodes_eq_map, List.getElem?_map, List.getElem?_range hj]; rfl

theorem blockNodes_succ_append (mem ns k : Nat) :
    blockNodes mem ns (k + 1) = blockNodes mem ns k ++ [mem + k * ns] := by
  rw [blockNodes_eq_map, blockNodes_eq_map, List.range_succ, List.map_append]; rfl

theorem blockNodes_one (mem ns : Nat) : blockNodes mem ns 1 = [mem] := rfl

theorem asc_blockNodes (mem ns k : Nat) (hns : 0 < ns) : Ascending (blockNodes mem ns k) := by
  rw [blockNodes_eq_map]
  exact List.pairwise_map.mpr
    (List.pairwise_lt_range.imp fun h => Nat.add_lt_add_left (Nat.mul_lt_mul_of_pos_right h hns) mem)

theorem blockNodes_pairwise (mem ns k : Nat) : (blockNodes mem ns k).Pairwise (Apart ns) := by
  induction k generalizing mem with
  | zero => exact List.Pairwise.nil
  | succ k ih =>
    rw [blockNodes, List.pairwise_cons]
    refine ⟨?_, ih _⟩
    intro y hy
    obtain ⟨j, _, rfl⟩ := mem_blockNodes.mp hy
    exact Or.inl (Nat.le_add_right _ _)

theorem blockNodes_bounds {mem ns k x : Nat} (h : x ∈ blockNodes mem ns k) : mem ≤ x ∧ x + ns ≤ mem + k * ns := by
  obtain ⟨j, hj, rfl⟩ := mem_blockNodes.mp h
  refine ⟨Nat.le_add_right _ _, ?_⟩
  rw [Nat.add_assoc, ← Nat.succ_mul]
  exact Nat.add_le_add_left (Nat.mul_le_mul_right ns hj) mem

theorem blockNodes_div_bounds {mem size ns x : Nat} (hx : x ∈ blockNodes mem ns (size / ns)) :
    mem ≤ x ∧ x + ns ≤ mem + size :=
  ⟨(blockNodes_bounds hx).1,
    Nat.le_trans (blockNodes_bounds hx).2 (Nat.add_le_add_left (Nat.div_mul_le_self size ns) mem)⟩

theorem blockNodes_le_last {mem ns k x : Nat} (h : x ∈ blockNodes mem ns k) : mem ≤ x ∧ x ≤ mem + (k - 1) * ns := by
  obtain ⟨j, hj, rfl⟩ := mem_blockNodes.mp h
  exact ⟨Nat.le_add_right _ _, Nat.add_le_add_left (Nat.mul_le_mul_right ns (Nat.le_sub_one_of_lt hj)) mem⟩

/-- an interval that is disjoint from each of `k ≥ 1` consecutive cells is disjoint from their span -/
theorem span_disjoint {a ns p len : Nat} (hlen : 0 < len) :
    ∀ k, (∀ t, t < k + 1 → p + len ≤ a + t * ns ∨ a + t * ns + ns ≤ p) → p + len ≤ a ∨ a + (k + 1) * ns ≤ p := by
  intro k
  induction k with
  | zero =>
    intro h
    simpa only [Nat.zero_mul, Nat.add_zero, Nat.zero_add, Nat.one_mul] using h 0 Nat.one_pos
  | succ k ih =>
    intro h
    rcases ih fun t ht => h t (Nat.lt_succ_of_lt ht) with h1 | h1
    · exact Or.inl h1
    · -- the span so far ends at or before `p`, so cell `k + 1` cannot lie after the interval
      rw [Nat.succ_mul (k + 1), ← Nat.add_assoc]
      rcases h (k + 1) (Nat.lt_succ_self _) with h2 | h2
      · exact absurd (Nat.le_trans h2 h1) (Nat.not_le.2 (Nat.lt_add_of_pos_right hlen))
      · exact Or.inr h2

theorem apart_run {ns x a c : Nat} (hns : 0 < ns) (hc : 0 < c) (h : ∀ y ∈ blockNodes a ns c, Apart ns x y) :
    x + ns ≤ a ∨ a + c * ns ≤ x := by
  obtain ⟨k, rfl⟩ : ∃ k, c = k + 1 := ⟨c - 1, (Nat.sub_add_cancel hc).symm⟩
  exact span_disjoint hns k fun t ht => h _ (mem_blockNodes.mpr ⟨t, ht, rfl⟩)

theorem apart_runs {ns a1 c1 a2 c2 : Nat} (hns : 0 < ns) (h1 : 0 < c1) (h2 : 0 < c2)
    (h : ∀ x ∈ blockNodes a1 ns c1, ∀ y ∈ blockNodes a2 ns c2, Apart ns x y) :
    a1 + c1 * ns ≤ a2 ∨ a2 + c2 * ns ≤ a1 := by
  obtain ⟨k, rfl⟩ : ∃ k, c1 = k + 1 := ⟨c1 - 1, (Nat.sub_add_cancel h1).symm⟩
  -- the byte range of the second run is an interval disjoint from each cell of the first
  exact (span_disjoint (Nat.mul_pos h2 hns) k fun t ht =>
    (apart_run hns h2 (h _ (mem_blockNodes.mpr ⟨t, ht, rfl⟩))).symm).symm

/-- what a successful `list_search_array` (for `need > ns`) returns: a run of exactly `len ≥ 2` address-consecutive nodes
starting at list index `start`, whose byte size reaches `need` while one node fewer would not -/
structure RunAt (ns need : Nat) (full : List Nat) (start len : Nat) (a : Nat) (pfx sfx : List Nat) : Prop where
  split : full = pfx ++ blockNodes a ns len ++ sfx
  start : pfx.length = start
  two : 2 ≤ len
  enough : need ≤ len * ns
  tight : (len - 1) * ns < need

theorem searchArrayGo_specL (ns need : Nat) (hns : ns < need) (xs : List Nat) :
    ∀ (pfx0 : List Nat) (a len' : Nat) {last start idx s l : Nat},
      pfx0.length = start → idx = start + (len' + 1) → last = a + len' * ns → (len' + 1) * ns < need →
      searchArrayGo ns need xs start (len' + 1) last idx = some (s, l) →
      ∃ a' pfx sfx, RunAt ns need (pfx0 ++ blockNodes a ns (len' + 1) ++ xs) s l a' pfx sfx := by
  induction xs with
  | nil => intro _ _ _ _ _ _ _ _ _ _ _ _ h; cases h
  | cons x xs ih =>
    intro pfx0 a len' last start idx s l hst hidx hlast hlt h
    unfold searchArrayGo at h
    by_cases h1 : last + ns ≠ x
    · -- the run is broken: what was seen so far becomes prefix, a new run starts at `x`
      rw [if_pos h1] at h
      obtain ⟨a', pfx, sfx, hr⟩ := ih (pfx0 ++ blockNodes a ns (len' + 1)) x 0
        (by rw [List.length_append, blockNodes_length, hst, hidx]) rfl (by rw [Nat.zero_mul, Nat.add_zero])
        (by rwa [Nat.zero_add, Nat.one_mul]) h
      exact ⟨a', pfx, sfx, List.append_cons _ x xs ▸ hr⟩
    · rw [if_neg h1] at h
      have hx : x = a + (len' + 1) * ns := by
        rw [← Decidable.of_not_not h1, hlast, Nat.succ_mul, Nat.add_assoc]
      have e : pfx0 ++ blockNodes a ns (len' + 1) ++ x :: xs = pfx0 ++ blockNodes a ns (len' + 1 + 1) ++ xs := by
        rw [List.append_cons, List.append_assoc pfx0, hx, ← blockNodes_succ_append]
      by_cases h2 : (len' + 1 + 1) * ns ≥ need
      · rw [if_pos h2] at h
        cases h
        exact ⟨a, pfx0, xs, e, hst, Nat.le_add_left 2 len', h2, hlt⟩
      · rw [if_neg h2] at h
        obtain ⟨a', pfx, sfx, hr⟩ := ih pfx0 a (len' + 1) hst (congrArg (· + 1) hidx) hx
          (Nat.lt_of_not_le h2) h
        exact ⟨a', pfx, sfx, e ▸ hr⟩

theorem searchArray_specL (ns need : Nat) (hns : ns < need) (full : List Nat) (s l : Nat)
    (h : searchArray ns need full = some (s, l)) :
    ∃ a pfx sfx, RunAt ns need full s l a pfx sfx := by
  cases full with
  | nil => cases h
  | cons x xs =>
    exact searchArrayGo_specL ns need hns xs [] x 0 rfl rfl (by rw [Nat.zero_mul, Nat.add_zero])
      (by rwa [Nat.zero_add, Nat.one_mul]) h

theorem searchArray_bounds (ns need : Nat) (hns : ns < need) (full : List Nat) (s l : Nat)
    (h : searchArray ns need full = some (s, l)) : s + l ≤ full.length ∧ 1 ≤ l := by
  obtain ⟨a, pfx, sfx, hr⟩ := searchArray_specL ns need hns full s l h
  rw [hr.split, List.length_append, List.length_append, blockNodes_length, hr.start]
  exact ⟨Nat.le_add_right _ _, Nat.le_of_succ_le hr.two⟩

theorem run_getElem? {A B : List Nat} {f ns L j : Nat} (hj : j < L) :
    (A ++ blockNodes f ns L ++ B)[A.length + j]? = some (f + j * ns) := by
  rw [List.append_assoc, List.getElem?_append_right (Nat.le_add_right _ _), Nat.add_sub_cancel_left,
    List.getElem?_append_left (by rw [blockNodes_length]; exact hj)]
  exact blockNodes_getElem? hj

theorem split_run {A B : List Nat} {f ns L : Nat} (hL : 0 < L) :
    (A ++ blockNodes f ns L ++ B).take A.length = A ∧
    (A ++ blockNodes f ns L ++ B).drop (A.length + L) = B ∧
    (A ++ blockNodes f ns L ++ B)[A.length]? = some f := by
  refine ⟨?_, ?_, ?_⟩
  · rw [List.append_assoc, List.take_left']; rfl
  · have : (A ++ blockNodes f ns L).length = A.length + L := by simp
    rw [← this, List.drop_left']; rfl
  · have := run_getElem? (A := A) (B := B) (f := f) (ns := ns) (j := 0) hL
    rwa [Nat.zero_mul] at this

theorem searchArray_split {ns need : Nat} {nodes : List Nat} {s L : Nat} (hns : 0 < ns) (hneed : ns < need)
    (h : searchArray ns need nodes = some (s, L)) :
    ∃ A f B, nodes = A ++ blockNodes f ns L ++ B ∧ A.length = s ∧ L = ceilNodes need ns ∧ 2 ≤ L ∧
      nodes.take s = A ∧ nodes.drop (s + L) = B ∧ nodes[s]? = some f := by
  obtain ⟨f, A, B, hr⟩ := searchArray_specL ns need hneed nodes s L h
  have hsp := split_run (A := A) (B := B) (f := f) (ns := ns) (Nat.lt_of_lt_of_le Nat.zero_lt_two hr.two)
  rw [← hr.split, hr.start] at hsp
  exact ⟨A, f, B, hr.split, hr.start, (ceilNodes_unique hns hr.tight hr.enough).symm, hr.two, hsp⟩

theorem FreeList.insertImpl_eq_some {l l' : FreeList} {mem size : Nat} :
    l.insertImpl mem size = some l' ↔ size / l.ns ≠ 0 ∧
      l' = { l with nodes := blockNodes mem l.ns (size / l.ns) ++ l.nodes, cap := l.cap + size / l.ns } := by
  show (if size / l.ns = 0 then none else some _) = some l' ↔ _
  by_cases hk : size / l.ns = 0
  · rw [if_pos hk]
    exact ⟨nofun, fun h => absurd hk h.1⟩
  · rw [if_neg hk, Option.some.injEq, eq_comm]
    exact (and_iff_right hk).symm

theorem FreeList.allocate_shape {l l' : FreeList} {x : Nat} (h : l.allocate = some (l', x)) :
    ∃ xs, l.nodes = x :: xs ∧ l' = { l with nodes := xs, cap := l.cap - 1 } := by
  unfold FreeList.allocate at h
  split at h
  · cases h
  · rename_i y ys hy
    cases h
    exact ⟨ys, hy, rfl⟩

theorem FreeList.allocateBytes_array (l l' : FreeList) (n : Nat) (r : Option Nat) (hn : l.ns < n)
    (h : l.allocateBytes n = some (l', r)) :
    (searchArray l.ns n l.nodes = none ∧ l' = l ∧ r = none) ∨
    ∃ s len, searchArray l.ns n l.nodes = some (s, len) ∧
      l' = { l with nodes := l.nodes.take s ++ l.nodes.drop (s + len), cap := l.cap - len } ∧ r = l.nodes[s]? := by
  unfold FreeList.allocateBytes at h
  rw [if_neg (Nat.not_le.2 hn)] at h
  split at h
  · cases h
  · split at h
    · next hs =>
      cases h
      exact Or.inl ⟨hs, rfl, rfl⟩
    · next s len hs =>
      cases h
      exact Or.inr ⟨s, len, hs, rfl, rfl⟩

end MemVerif.Model
