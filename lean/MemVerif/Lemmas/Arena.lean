import MemVerif.Model.ArenaRun
/-! The arena against the upstream ledger: what a block source answers (`SrcAlloc`) and what `memory_arena::allocate_block`
makes of it (`ArenaAlloc`), each analysed once; the relations between the states of a source that the stack histories use
(`SrcStep`, `SrcSim`); and the invariant `Arena.Sync` behind `MemVerif.Props.C05`. -/
namespace MemVerif.Model

theorem ledger_append (st : List Blk) (e1 e2 : List UpEv) :
    ledger st (e1 ++ e2) = (ledger st e1).bind (fun st' => ledger st' e2) := by
  induction e1 generalizing st with
  | nil => simp [ledger]
  | cons ev evs ih =>
    cases ev with
    | alloc s al r =>
      cases r with
      | none => simp only [List.cons_append, ledger]; exact ih st
      | some a => simp only [List.cons_append, ledger]; exact ih _
    | dealloc a s al =>
      cases st with
      | nil => simp [ledger]
      | cons b st =>
        simp only [List.cons_append, ledger]
        split
        · exact ih st
        · simp

theorem ledger_append_of_eq {st st' : List Blk} {e1 : List UpEv} (h : ledger st e1 = some st')
    (e2 : List UpEv) : ledger st (e1 ++ e2) = ledger st' e2 := by
  rw [ledger_append, h]; rfl

def Src.NonStatic : Src → Prop
  | .static_ _ _ _ => False
  | _ => True

/-- how many more blocks a fixed source can hand out; `0` for the other sources, of which it is never asked -/
def Src.cap : Src → Nat
  | .fixed b => if b = 0 then 0 else 1
  | _ => 0

/-- the source went from `a` to `b` while handing out `n` blocks -/
def SrcStep (a b : Src) (n : Nat) : Prop :=
  match a, b with
  | .growing _ _ _, .growing _ _ _ => True
  | .fixed x, .fixed y => (Src.fixed y).cap + n = (Src.fixed x).cap
  | _, _ => False

/-- replay relation on sources: the second run (source `b`) must not be able to hand out a block when the
first run (source `a`, with `n` blocks still to be acquired) cannot -/
def SrcSim (a b : Src) (n : Nat) : Prop :=
  match a with
  | .growing _ _ _ => True
  | .fixed x => ∃ y, b = .fixed y ∧ (Src.fixed y).cap + n ≤ (Src.fixed x).cap
  | .static_ _ _ _ => False

theorem Src.nonStatic_iff (s : Src) : s.NonStatic ↔ s.isUpstream = true := by
  cases s <;> simp [Src.NonStatic, Src.isUpstream]

theorem SrcStep.refl {a : Src} (h : a.NonStatic) : SrcStep a a 0 := by
  cases a <;> simp_all [SrcStep, Src.NonStatic]

theorem SrcStep.trans {a b c : Src} {n m : Nat} (h1 : SrcStep a b n) (h2 : SrcStep b c m) : SrcStep a c (n + m) := by
  cases a <;> cases b <;> cases c <;> simp_all [SrcStep]
  omega

theorem SrcStep.right {a b : Src} {n : Nat} (h : SrcStep a b n) : b.NonStatic := by
  cases a <;> cases b <;> simp_all [SrcStep, Src.NonStatic]

theorem SrcStep.toSim {a b : Src} {n : Nat} (h : SrcStep a b n) : SrcSim a b n := by
  cases a <;> cases b <;> simp_all [SrcStep, SrcSim]

/-- the first run's source moves on by the blocks it hands out; the replaying source owes that many fewer -/
theorem SrcSim.steps {a a' b : Src} {n m : Nat} (h1 : SrcStep a a' n) (h2 : SrcSim a b (n + m)) : SrcSim a' b m := by
  cases a with
  | growing _ _ _ => cases a' <;> simp_all [SrcStep, SrcSim]
  | static_ _ _ _ => simp [SrcSim] at h2
  | fixed x =>
    cases a' with
    | growing _ _ _ => simp [SrcStep] at h1
    | static_ _ _ _ => simp [SrcStep] at h1
    | fixed x' =>
      simp only [SrcStep] at h1
      simp only [SrcSim] at h2 ⊢
      obtain ⟨y, hy, hle⟩ := h2
      exact ⟨y, hy, by omega⟩

theorem SrcSim.fixed0 {b : Src} {n : Nat} (h : SrcSim (.fixed 0) b n) : b = .fixed 0 ∧ n = 0 := by
  simp only [SrcSim, Src.cap] at h
  obtain ⟨y, rfl, hy⟩ := h
  by_cases hy0 : y = 0
  · subst hy0
    simp at hy
    simp [hy]
  · simp [hy0] at hy

theorem SrcSim.left {a b : Src} {n : Nat} (h : SrcSim a b n) : a.NonStatic := by
  cases a <;> simp_all [SrcSim, Src.NonStatic]

/-- **What a block source answers to `allocate_block()`.** A source on an upstream allocator passes the request on with
the size it announced — one `alloc` event, answered by the environment — unless it is a fixed source that has given its
block away; a static source carves its storage. A source that fails is left as it was. -/
inductive SrcAlloc (s : Src) (env : List (Option Nat)) : SrcRes → Prop
  | envMissing (he : env = []) : SrcAlloc s env .envMissing
  | refused {env'} (he : env = none :: env') :
      SrcAlloc s env (.fail s .upstream [.alloc s.nextBlockSize maxAlign none] env')
  | spent (h : s.isUpstream = true → s = .fixed 0) : SrcAlloc s env (.fail s .oofm [] env)
  | given {x env' s'} (he : env = some x :: env') (hs : SrcStep s s' 1) :
      SrcAlloc s env (.ok s' ⟨x, s.nextBlockSize⟩ [.alloc s.nextBlockSize maxAlign (some x)] env')
  | carved {c e b} (h : s = .static_ c e b) : SrcAlloc s env (.ok (.static_ (c + b) e b) ⟨c, b⟩ [] env)

theorem Src.allocateBlock_cases (s : Src) (env : List (Option Nat)) : SrcAlloc s env (s.allocateBlock env) := by
  -- a source that asks upstream for `s.nextBlockSize` bytes and becomes `s'` when it gets them
  have ask : ∀ s', SrcStep s s' 1 → SrcAlloc s env (match env with
      | [] => .envMissing
      | none :: env' => .fail s .upstream [.alloc s.nextBlockSize maxAlign none] env'
      | some x :: env' => .ok s' ⟨x, s.nextBlockSize⟩ [.alloc s.nextBlockSize maxAlign (some x)] env') := fun s' hs => by
    cases env with
    | nil => exact .envMissing rfl
    | cons x env' =>
      cases x with
      | none => exact .refused rfl
      | some x => exact .given rfl hs
  cases s with
  | growing n d b => exact ask _ trivial
  | fixed b =>
    show SrcAlloc _ _ (if b ≠ 0 then _ else _)
    by_cases hb : b = 0
    · rw [if_neg (not_not_intro hb)]
      exact .spent fun _ => congrArg Src.fixed hb
    · rw [if_pos hb]
      exact ask (.fixed 0) (by simp [SrcStep, Src.cap, hb])
  | static_ c e b =>
    show SrcAlloc _ _ (if _ then _ else _)
    split
    · exact .spent nofun
    · exact .carved rfl

theorem Src.deallocateBlock_upstream (cfg : Cfg) (s : Src) (b : Blk) (hs : s.isUpstream = true) :
    (s.deallocateBlock cfg b).1.isUpstream = true ∧
      (s.deallocateBlock cfg b).2.1 = [.dealloc b.base b.size maxAlign] := by
  cases s with
  | growing n d bs => simp [Src.deallocateBlock, Src.isUpstream]
  | fixed bs => simp [Src.deallocateBlock, Src.isUpstream]
  | static_ c e bs => simp [Src.isUpstream] at hs

theorem releaseAll_upstream (cfg : Cfg) (s : Src) (bs rest : List Blk) (hs : s.isUpstream = true) :
    (releaseAll cfg s bs).1.isUpstream = true ∧
      ledger (bs ++ rest) (releaseAll cfg s bs).2.1 = some rest := by
  induction bs generalizing s with
  | nil => simp [releaseAll, ledger, hs]
  | cons b bs ih =>
    obtain ⟨h1, h2⟩ := Src.deallocateBlock_upstream cfg s b hs
    obtain ⟨h3, h4⟩ := ih (s.deallocateBlock cfg b).1 h1
    simp only [releaseAll]
    refine ⟨h3, ?_⟩
    rw [h2]
    simp only [List.cons_append, List.nil_append, ledger]
    simp [h4]

/-- what `memory_arena::allocate_block` does: a cached block is taken, or else the source is asked — and a source that
fails is left as it was, so that the arena is unchanged -/
inductive ArenaAlloc (a : Arena) (env : List (Option Nat)) : ArenaRes → Prop
  | cache {c cs} (hc : a.isCached = true) (hcs : a.cached = c :: cs) :
      ArenaAlloc a env (.ok { a with used := c :: a.used, cached := cs } c.usable [] env)
  | envMissing (h0 : a.isCached = false ∨ a.cached = []) (hs : SrcAlloc a.src env .envMissing) :
      ArenaAlloc a env .envMissing
  | fail {e ev env'} (h0 : a.isCached = false ∨ a.cached = []) (hs : SrcAlloc a.src env (.fail a.src e ev env')) :
      ArenaAlloc a env (.fail a e ev env')
  | new {s b ev env'} (h0 : a.isCached = false ∨ a.cached = []) (hs : SrcAlloc a.src env (.ok s b ev env')) :
      ArenaAlloc a env (.ok { a with src := s, used := b :: a.used } b.usable ev env')

theorem arena_alloc_src (a : Arena) (h : a.isCached = false ∨ a.cached = []) (env : List (Option Nat)) :
    a.allocateBlock env =
      match a.src.allocateBlock env with
      | .envMissing => .envMissing
      | .fail s e ev env' => .fail { a with src := s } e ev env'
      | .ok s b ev env' => .ok { a with src := s, used := b :: a.used } b.usable ev env' := by
  obtain ⟨src, ic, used, cached⟩ := a
  simp only at h
  rcases h with h | h
  · subst h; rfl
  · subst h; cases ic <;> rfl

theorem arena_alloc_cache (src : Src) (used : List Blk) (c : Blk) (cs : List Blk) (env : List (Option Nat)) :
    Arena.allocateBlock ⟨src, true, used, c :: cs⟩ env = .ok ⟨src, true, c :: used, cs⟩ c.usable [] env := rfl

theorem Arena.allocateBlock_cases (a : Arena) (env : List (Option Nat)) : ArenaAlloc a env (a.allocateBlock env) := by
  have ask : a.isCached = false ∨ a.cached = [] → ArenaAlloc a env (a.allocateBlock env) := fun h0 => by
    rw [arena_alloc_src a h0]
    have hs := a.src.allocateBlock_cases env
    generalize a.src.allocateBlock env = r at hs
    cases hs with
    | envMissing he => exact .envMissing h0 (.envMissing he)
    | refused he => exact .fail h0 (.refused he)
    | spent h => exact .fail h0 (.spent h)
    | given he hs => exact .new h0 (.given he hs)
    | carved h => exact .new h0 (.carved h)
  obtain ⟨src, ic, used, cached⟩ := a
  cases ic with
  | false => exact ask (.inl rfl)
  | true =>
    cases cached with
    | nil => exact ask (.inr rfl)
    | cons c cs => exact .cache rfl rfl

theorem Arena.allocateBlock_ok {a a' : Arena} {env env' : List (Option Nat)} {ub : Blk} {ev : List UpEv}
    (h : a.allocateBlock env = .ok a' ub ev env') :
    a'.isCached = a.isCached ∧ ∃ b, a'.used = b :: a.used ∧ ub = b.usable := by
  have hcase := Arena.allocateBlock_cases a env
  rw [h] at hcase
  cases hcase with
  | cache => exact ⟨rfl, _, rfl, rfl⟩
  | new => exact ⟨rfl, _, rfl, rfl⟩

theorem Arena.allocateBlock_fail {a a' : Arena} {env env' : List (Option Nat)} {ex : Exn} {ev : List UpEv}
    (heq : a.allocateBlock env = .fail a' ex ev env') :
    a' = a ∧ newBlocks ev = [] ∧ ∀ st, ledger st ev = some st := by
  have hcase := Arena.allocateBlock_cases a env
  rw [heq] at hcase
  cases hcase with
  | fail h0 hsrc =>
    cases hsrc with
    | refused => exact ⟨rfl, rfl, fun _ => rfl⟩
    | spent => exact ⟨rfl, rfl, fun _ => rfl⟩

theorem Arena.currentBlock_cons {a : Arena} {b0 : Blk} {rest : List Blk} (hu : a.used = b0 :: rest) :
    a.currentBlock = some b0.usable := by
  unfold Arena.currentBlock
  rw [hu]
  rfl

def Arena.UpInv (a : Arena) : Prop :=
  a.src.isUpstream = true ∧ (a.isCached = false → a.cached = [])

/-- a step from `a` to `a'` emitting `ev` keeps the invariant and the ledger in sync -/
def Arena.Sync (a a' : Arena) (ev : List UpEv) : Prop :=
  a'.UpInv ∧ ledger (a.cached.reverse ++ a.used) ev = some (a'.cached.reverse ++ a'.used)

theorem Arena.Sync.refl (a : Arena) (h : a.UpInv) : a.Sync a [] := ⟨h, rfl⟩

theorem Arena.Sync.trans {a a' a'' : Arena} {ev ev' : List UpEv} (h1 : a.Sync a' ev) (h2 : a'.Sync a'' ev') :
    a.Sync a'' (ev ++ ev') :=
  ⟨h2.1, (ledger_append_of_eq h1.2 ev').trans h2.2⟩

theorem Arena.allocateBlock_sync {a a' : Arena} {env env' : List (Option Nat)} {x : Blk} {ev : List UpEv} (h : a.UpInv)
    (heq : a.allocateBlock env = .ok a' x ev env') : a.Sync a' ev := by
  obtain ⟨hs, hc⟩ := h
  have hcase := Arena.allocateBlock_cases a env
  rw [heq] at hcase
  cases hcase with
  | cache hic hcc =>
    refine ⟨⟨hs, fun h => by simp [hic] at h⟩, ?_⟩
    simp [hcc, ledger]
  | new h0 hsrc =>
    -- the source is only asked when the cache is empty
    have hnil : a.cached = [] := h0.elim hc id
    cases hsrc with
    | given _ hst =>
      refine ⟨⟨(Src.nonStatic_iff _).1 hst.right, hc⟩, ?_⟩
      simp only [hnil, List.reverse_nil, List.nil_append]
      rfl
    | carved h => rw [h] at hs; cases hs

theorem Arena.shrinkToFit_inv (cfg : Cfg) (a : Arena) (h : a.UpInv) :
    (a.shrinkToFit cfg).1.UpInv ∧ (a.shrinkToFit cfg).1.cached = [] ∧
      (a.shrinkToFit cfg).1.used = a.used ∧
      ledger (a.cached.reverse ++ a.used) (a.shrinkToFit cfg).2.1 = some a.used := by
  obtain ⟨hs, _⟩ := h
  obtain ⟨h1, h2⟩ := releaseAll_upstream cfg a.src a.cached.reverse a.used hs
  exact ⟨⟨h1, fun _ => rfl⟩, rfl, rfl, h2⟩

theorem Arena.deallocateBlock_sync {cfg : Cfg} {a a' : Arena} {ev : List UpEv} {chk : Option String} (h : a.UpInv)
    (heq : a.deallocateBlock cfg = some (a', ev, chk)) : a.Sync a' ev := by
  obtain ⟨src, ic, used, cached⟩ := a
  obtain ⟨hs, hc⟩ := h
  cases used with
  | nil => cases heq
  | cons b us =>
    cases ic with
    | true =>
      cases heq
      exact ⟨⟨hs, nofun⟩, by simp [ledger]⟩
    | false =>
      obtain ⟨h1, h2⟩ := Src.deallocateBlock_upstream cfg src b hs
      cases hc rfl
      cases heq
      refine ⟨⟨h1, fun _ => rfl⟩, ?_⟩
      show ledger (b :: us) (src.deallocateBlock cfg b).2.1 = some us
      rw [h2]
      simp [ledger]

theorem Arena.stepOp_sync (cfg : Cfg) (e : EnvS) (a : Arena) (k : Nat) (op : AOp) (h : a.UpInv) :
    a.Sync (a.stepOp cfg e k op).1 (a.stepOp cfg e k op).2.2 := by
  cases op with
  | alloc =>
    simp only [Arena.stepOp]
    split
    · rename_i heq
      exact Arena.allocateBlock_sync h heq
    · rename_i heq
      obtain ⟨rfl, _, h3⟩ := Arena.allocateBlock_fail heq
      exact ⟨h, h3 _⟩
    · exact .refl a h
  | dealloc =>
    simp only [Arena.stepOp]
    split
    · rename_i heq
      exact Arena.deallocateBlock_sync h heq
    · exact .refl a h
  | shrink =>
    obtain ⟨h1, h2, h3, h4⟩ := Arena.shrinkToFit_inv cfg a h
    simp only [Arena.stepOp]
    refine ⟨h1, ?_⟩
    rw [h4, h2, h3]; rfl

theorem Arena.runOps_sync (cfg : Cfg) (e : EnvS) (a : Arena) (k : Nat) (ops : List AOp) (h : a.UpInv) :
    a.Sync (a.runOps cfg e k ops).1 (a.runOps cfg e k ops).2.2 := by
  induction ops generalizing a k with
  | nil => exact .refl a h
  | cons op ops ih =>
    have h1 := Arena.stepOp_sync cfg e a k op h
    exact h1.trans (ih _ _ h1.1)

theorem Arena.destroy_ledger (cfg : Cfg) (a : Arena) (h : a.UpInv) :
    ledger (a.cached.reverse ++ a.used) (a.destroy cfg).2.1 = some [] := by
  obtain ⟨h1, _, h3, h4⟩ := Arena.shrinkToFit_inv cfg a h
  obtain ⟨_, h6⟩ := releaseAll_upstream cfg (a.shrinkToFit cfg).1.src (a.shrinkToFit cfg).1.used [] h1.1
  simp only [Arena.destroy]
  rw [ledger_append_of_eq h4]
  rw [h3, List.append_nil] at h6
  rw [h3]
  exact h6

end MemVerif.Model
