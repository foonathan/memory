import MemVerif.Lemmas.Scope
import MemVerif.Lemmas.Blocks
/-! C01 for `memory_stack`: the placement invariant `SQ` of the live allocations and its preservation by `allocate`,
`try_allocate` and whole marker scopes. -/
namespace MemVerif.Model

/-- two byte ranges `(address, length)` do not overlap -/
def RDisj (a b : Nat × Nat) : Prop := a.1 + a.2 ≤ b.1 ∨ b.1 + b.2 ≤ a.1

theorem RDisj.symm {a b : Nat × Nat} (h : RDisj a b) : RDisj b a := Or.symm h

/-- placement of the live allocations of a `memory_stack` (a function of the top pointer and the used blocks only):
every live range lies in the usable part of a used block, those in the current block end at or below the top pointer,
and the ranges are pairwise apart -/
structure SQ (cur : Nat) (used : List Blk) (live : List (Nat × Nat)) : Prop where
  curIn : ∀ b, used.head? = some b → b.base + implOff ≤ cur ∧ cur ≤ b.base + b.size
  inside : ∀ r ∈ live, ∃ b ∈ used, b.base + implOff ≤ r.1 ∧ r.1 + r.2 ≤ b.base + b.size ∧
      (used.head? = some b → r.1 + r.2 ≤ cur)
  apart : live.Pairwise RDisj

theorem SQ.bump {cur : Nat} {b : Blk} {rest : List Blk} {live : List (Nat × Nat)} (h : SQ cur (b :: rest) live)
    (hb : BlocksOk (b :: rest)) {p n c' : Nat} (h1 : cur ≤ p) (h2 : p + n ≤ c') (h3 : c' ≤ b.base + b.size) :
    SQ c' (b :: rest) ((p, n) :: live) := by
  have hc := h.curIn b rfl
  have hcc : cur ≤ c' := Nat.le_trans h1 (Nat.le_trans (Nat.le_add_right _ _) h2)
  refine ⟨fun b' hb' => ?_, fun r hr => ?_, List.pairwise_cons.mpr ⟨fun r hr => ?_, h.apart⟩⟩
  · cases hb'
    exact ⟨Nat.le_trans hc.1 hcc, h3⟩
  · rcases List.mem_cons.mp hr with rfl | hr
    · exact ⟨b, List.mem_cons_self, Nat.le_trans hc.1 h1, Nat.le_trans h2 h3, fun _ => h2⟩
    · obtain ⟨b', hb', i1, i2, i3⟩ := h.inside r hr
      exact ⟨b', hb', i1, i2, fun hh => Nat.le_trans (i3 hh) hcc⟩
  · obtain ⟨b', hb', i1, i2, i3⟩ := h.inside r hr
    rcases hb.2.eq_or_rel Blk.Disj.symm hb' List.mem_cons_self with rfl | hd | hd
    · -- same block: `r` ends at or below the old top
      exact .inr (Nat.le_trans (i3 rfl) h1)
    · -- a block below the current one
      exact .inr (Nat.le_trans i2 (Nat.le_trans hd (Nat.le_trans (Nat.le_add_right _ _) (Nat.le_trans hc.1 h1))))
    · -- a block above the current one
      exact .inl (Nat.le_trans h2 (Nat.le_trans h3 (Nat.le_trans hd (Nat.le_trans (Nat.le_add_right _ _) i1))))

theorem SQ.push {cur : Nat} {nb : Blk} {used : List Blk} {live : List (Nat × Nat)} (h : SQ cur used live)
    (hb : BlocksOk (nb :: used)) {c' : Nat} (h1 : nb.base + implOff ≤ c') (h2 : c' ≤ nb.base + nb.size) :
    SQ c' (nb :: used) live := by
  refine ⟨fun b' hb' => ?_, fun r hr => ?_, h.apart⟩
  · cases hb'
    exact ⟨h1, h2⟩
  · obtain ⟨b', hb', i1, i2, _⟩ := h.inside r hr
    refine ⟨b', List.mem_cons_of_mem _ hb', i1, i2, fun hh => ?_⟩
    -- `b'` is one of the old blocks and not the new one: a block that holds the arena's header is not apart from itself
    cases hh
    have hd : nb.Disj nb := (List.pairwise_cons.mp hb.2).1 _ hb'
    have hw := (hb.1 nb List.mem_cons_self).2.1
    rw [implOff_eq] at hw
    unfold Blk.Disj at hd
    omega

theorem blkEnd_cons {b : Blk} (hw : b.Wf) (rest : List Blk) : blkEnd (b :: rest) = some (b.base + b.size) :=
  congrArg some hw.usable_end

theorem noGrow_fits (cfg : Cfg) {cur : Nat} {b : Blk} {rest : List Blk} {size k : Nat} (hk : k < 48)
    (hsz : size < 2 ^ 64) (hf : cfg.fence ≤ 2 ^ 16) (hw : b.Wf) (h2 : cur ≤ b.base + b.size)
    (hg : growDec cfg cur (b :: rest) size (2 ^ k) = some false) :
    bumpCur cfg cur size (2 ^ k) ≤ b.base + b.size := by
  obtain ⟨k64, he, hf'⟩ := stack_bounds hk h2 hw.2.2 hf
  rw [growDec, blkEnd_cons hw] at hg
  split at hg
  · cases hg
  · rw [Option.some.injEq, Bool.not_eq_false'] at hg
    exact (fits_top_iff k64 h2 he hsz hf').1 hg

/-- the caller's ledger after a request of `size` bytes with outcome `out` -/
def liveAfter (live : List (Nat × Nat)) (size : Nat) : Out → List (Nat × Nat)
  | .ok p => (p, size) :: live
  | _ => live

/-- the ledger of allocations handed out at the top level of a history (marker scopes hand theirs back) -/
def liveStep (live : List (Nat × Nat)) : SOp → List Out → List (Nat × Nat)
  | .alloc size _, [out] => liveAfter live size out
  | .tryAlloc size _, [out] => liveAfter live size out
  | _, _ => live

/-- a new block `c` is entered by `allocate`: both outcomes keep the placement invariant -/
theorem sq_enter (cfg : Cfg) {cur : Nat} {c : Blk} {used : List Blk} {live : List (Nat × Nat)} (hq : SQ cur used live)
    (hb : BlocksOk (c :: used)) {size k : Nat} (hk : k < 48) (hsz : size < 2 ^ 64) (hf : cfg.fence ≤ 2 ^ 16) :
    SQ (finishCur cfg c.usable size (2 ^ k)) (c :: used) (liveAfter live size (finishOut cfg c.usable size (2 ^ k))) := by
  have hw := hb.1 c List.mem_cons_self
  have hue := hw.usable_end
  have hpush : SQ c.usable.base (c :: used) live :=
    hq.push hb (Nat.le_refl _) (Nat.le_trans (Nat.le_add_right _ _) (Nat.le_of_eq hue))
  unfold finishCur finishOut
  by_cases hn : neededSat cfg.fence (alignOff (c.usable.base + cfg.fence) (2 ^ k)) size > c.usable.size
  · rw [if_pos hn, if_pos hn]
    exact hpush
  · rw [if_neg hn, if_neg hn]
    exact hpush.bump hb (le_bumpPtr ..) (bumpPtr_add_le ..)
      (Nat.le_trans (grow_fits cfg c.usable hk hsz hf (Nat.le_trans (Nat.le_of_eq hue) hw.2.2) hn) (Nat.le_of_eq hue))

theorem sq_alloc (cfg : Cfg) (e : EnvS) (s : MemStack) (k : Nat) (hp : Pre s) {size kk : Nat} (hk : kk < 48)
    (hsz : size < 2 ^ 64) (hf : cfg.fence ≤ 2 ^ 16) (live : List (Nat × Nat)) (hq : SQ s.cur s.arena.used live)
    (hb : BlocksOk (runOp cfg e s k (.alloc size (2 ^ kk))).st.arena.used) :
    SQ (runOp cfg e s k (.alloc size (2 ^ kk))).st.cur (runOp cfg e s k (.alloc size (2 ^ kk))).st.arena.used
      (liveStep live (.alloc size (2 ^ kk)) (runOp cfg e s k (.alloc size (2 ^ kk))).outs) := by
  have h := alloc_cases cfg e s k hp.cached hp.src size (2 ^ kk)
  generalize runOp cfg e s k (.alloc size (2 ^ kk)) = r at h hb ⊢
  cases h with
  | crash k hg => exact absurd hg (growDec_ne_none hp.ne)
  | fail k ex => exact hq
  | enter k n cs acq src' hg hn hs => exact sq_enter cfg hq hb hk hsz hf
  | bump k hg =>
    cases hu : s.arena.used with
    | nil => exact absurd hu hp.ne
    | cons b rest =>
      dsimp only at hb ⊢
      rw [hu] at hq hb hg
      have hfit := noGrow_fits cfg hk hsz hf (hb.1 b List.mem_cons_self) (hq.curIn b rfl).2 hg
      exact hq.bump hb (le_bumpPtr ..) (bumpPtr_add_le ..) hfit

theorem sq_try (cfg : Cfg) {cur : Nat} {used : List Blk} {size k : Nat} (hk : k < 48) (hsz : size < 2 ^ 64)
    (hf : cfg.fence ≤ 2 ^ 16) {live : List (Nat × Nat)} (hq : SQ cur used live) (hb : BlocksOk used) :
    SQ (tryCore cfg cur used size (2 ^ k)).1 used (liveAfter live size (tryCore cfg cur used size (2 ^ k)).2) := by
  unfold tryCore
  cases used with
  | nil => exact hq
  | cons b rest =>
    have hw := hb.1 b List.mem_cons_self
    have hcur := (hq.curIn b rfl).2
    rw [blkEnd_cons hw]
    dsimp only
    cases hfa : fixedAllocate cur (b.base + b.size) size (2 ^ k) cfg.fence with
    | none => exact hq
    | some pc =>
      obtain ⟨p, c⟩ := pc
      obtain ⟨k64, he, hf'⟩ := stack_bounds hk hcur hw.2.2 hf
      obtain ⟨_, h1, _, h3, h4⟩ := fixedAllocate_spec k64 hcur he hsz hf' hfa
      exact hq.bump hb (Nat.le_trans (Nat.le_add_right _ _) h1) (h3 ▸ Nat.le_add_right _ _) h4

/-- the ledger after a history run from `live`: what its top level still holds (`liveStep` along the run) -/
def topLive (cfg : Cfg) (e : EnvS) : MemStack → Nat → List (Nat × Nat) → List SOp → List (Nat × Nat)
  | _, _, live, [] => live
  | s, k, live, op :: ops =>
    let r := runOp cfg e s k op
    topLive cfg e r.st r.k (liveStep live op r.outs) ops

theorem sq_ops (cfg : Cfg) (e : EnvS) (hf : cfg.fence ≤ 2 ^ 16) :
    ∀ (ops : List SOp) (s : MemStack) (k : Nat) (live : List (Nat × Nat)), Pre s → SOpsWf ops →
      s.arena.used.length + s.arena.cached.length + (runOps cfg e s k ops).acquired.length < 2 ^ 64 →
      BlocksOk (s.arena.used ++ s.arena.cached ++ (runOps cfg e s k ops).acquired) →
      SQ s.cur s.arena.used live →
      SQ (runOps cfg e s k ops).st.cur (runOps cfg e s k ops).st.arena.used (topLive cfg e s k live ops)
  | [], s, k, live, _, _, _, _, hq => by simpa only [runOps, topLive] using hq
  | op :: ops, s, k, live, hp, hw, hlen, hb, hq => by
    simp only [runOps, topLive, List.length_append] at hlen hb ⊢
    obtain ⟨hw1, hw2⟩ := hw
    have hlen1 : s.arena.used.length + s.arena.cached.length + (runOp cfg e s k op).acquired.length < 2 ^ 64 :=
      Nat.lt_of_le_of_lt (Nat.add_le_add_left (Nat.le_add_right _ _) _) hlen
    have hst := strong_op cfg e op s k hp hlen1
    -- blocks owned after the first operation, together with what the rest acquires
    have hb1 : BlocksOk ((runOp cfg e s k op).st.arena.used ++ (runOp cfg e s k op).st.arena.cached ++
        (runOps cfg e (runOp cfg e s k op).st (runOp cfg e s k op).k ops).acquired) := by
      refine hb.perm ?_
      rw [← List.append_assoc]
      exact (hst.owned_perm.append_right _).symm
    have hbu : BlocksOk (runOp cfg e s k op).st.arena.used :=
      hb1.sublist ((List.sublist_append_left _ _).trans (List.sublist_append_left _ _))
    have hbs : BlocksOk s.arena.used :=
      hb.sublist ((List.sublist_append_left _ _).trans (List.sublist_append_left _ _))
    have hq1 : SQ (runOp cfg e s k op).st.cur (runOp cfg e s k op).st.arena.used
        (liveStep live op (runOp cfg e s k op).outs) := by
      cases op with
      | alloc size align =>
        obtain ⟨hsz, kk, hk, rfl⟩ := hw1
        exact sq_alloc cfg e s k hp hk hsz hf live hq hbu
      | tryAlloc size align =>
        obtain ⟨hsz, kk, hk, rfl⟩ := hw1
        simp only [runOp, liveStep, tryAllocate_core]
        exact sq_try cfg hk hsz hf hq hbs
      | scope inner =>
        rw [scope_acquired cfg e s k inner hp.ne] at hlen1
        have hsr := scope_res cfg e s k inner hp hlen1
        rw [hsr.cur, hsr.used]
        simpa only [liveStep] using hq
    exact sq_ops cfg e hf ops _ _ _ (hst.pre hp) hw2 (by rw [hst.total, Nat.add_assoc]; exact hlen) hb1 hq1

end MemVerif.Model
