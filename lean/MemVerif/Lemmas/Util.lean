/-!
General facts about `if`, `List` and `Nat` that several regions of the development need and that Lean core does
not state in this form; core only. They live in the root namespaces `List` and `Nat` for the sake of dot notation.
-/

/-- The models are nested `if`s: a fact about one is stated as `P (f x)` and proved by walking the tree with this,
which is far cheaper to check than `split` on a goal that mentions `f x` several times. -/
theorem ite_ind {α : Sort _} {P : α → Prop} {c : Prop} [Decidable c] {a b : α} (ha : c → P a) (hb : ¬ c → P b) :
    P (if c then a else b) := by
  by_cases h : c
  · rw [if_pos h]; exact ha h
  · rw [if_neg h]; exact hb h

theorem ite_eq_apply_ite {α β : Type _} (G : β → α) {c : Prop} [Decidable c] {a b : α} {a' b' : β}
    (ha : c → a = G a') (hb : ¬ c → b = G b') : (if c then a else b) = G (if c then a' else b') := by
  by_cases h : c
  · rw [if_pos h, if_pos h]; exact ha h
  · rw [if_neg h, if_neg h]; exact hb h

namespace List
variable {α : Type _} {β : Type _}

theorem getElem?_set_of_some {l : List α} {i : Nat} {a : α} (h : l[i]? = some a) (b : α) (j : Nat) :
    (l.set i b)[j]? = if j = i then some b else l[j]? := by
  obtain ⟨hi, _⟩ := getElem?_eq_some_iff.1 h
  rw [getElem?_set]
  by_cases hj : i = j
  · subst hj; simp [hi]
  · simp [hj, Ne.symm hj]

theorem getElem?_set_cases {l : List α} {t u : Nat} {x y : α} (h : (l.set t x)[u]? = some y) :
    (u = t ∧ y = x) ∨ (u ≠ t ∧ l[u]? = some y) := by
  rw [getElem?_set] at h
  split at h
  · next e =>
    split at h
    · exact .inl ⟨e.symm, (Option.some.inj h).symm⟩
    · cases h
  · next e => exact .inr ⟨fun e' => e e'.symm, h⟩

theorem getElem?_set_self_of_some {l : List α} {t : Nat} {x a : α} (h : l[t]? = some a) : (l.set t x)[t]? = some x :=
  getElem?_set_self (getElem?_eq_some_iff.1 h).1

theorem getD_set (l : List α) (i j : Nat) (v d : α) :
    (l.set i v).getD j d = if j = i ∧ i < l.length then v else l.getD j d := by
  simp only [getD_eq_getElem?_getD, getElem?_set]
  by_cases h : i = j
  · subst h
    by_cases hl : i < l.length
    · simp [hl]
    · simp [hl]
  · simp [h, Ne.symm h]

theorem perm_cons_eraseIdx {l : List α} {j : Nat} {x : α} (h : l[j]? = some x) : l.Perm (x :: l.eraseIdx j) := by
  obtain ⟨hj, rfl⟩ := getElem?_eq_some_iff.1 h
  rw [eraseIdx_eq_take_drop_succ]
  conv => lhs; rw [← take_append_drop j l, drop_eq_getElem_cons hj]
  exact perm_middle

theorem flatMap_set (f : α → List β) {xs : List α} {i : Nat} {x : α} (y : α) (h : xs[i]? = some x) :
    xs.flatMap f = (xs.take i).flatMap f ++ f x ++ (xs.drop (i + 1)).flatMap f ∧
    (xs.set i y).flatMap f = (xs.take i).flatMap f ++ f y ++ (xs.drop (i + 1)).flatMap f := by
  obtain ⟨hlt, hx⟩ := getElem?_eq_some_iff.1 h
  constructor
  · conv => lhs; rw [← take_append_drop i xs, drop_eq_getElem_cons hlt, hx]
    simp [flatMap_append, flatMap_cons]
  · rw [set_eq_take_append_cons_drop, if_pos hlt]
    simp [flatMap_append, flatMap_cons]

theorem sum_map_set (f : α → Nat) {l : List α} {i : Nat} {c : α} (c' : α) (h : l[i]? = some c) :
    ((l.set i c').map f).sum + f c = (l.map f).sum + f c' := by
  obtain ⟨hlt, rfl⟩ := getElem?_eq_some_iff.1 h
  rw [set_eq_take_append_cons_drop, if_pos hlt]
  conv => rhs; rw [← take_append_drop i l, drop_eq_getElem_cons hlt]
  simp only [map_append, map_cons, sum_append, sum_cons]
  omega

theorem sum_map_const (l : List α) (f : α → Nat) (c : Nat) (h : ∀ x ∈ l, f x = c) :
    (l.map f).sum = l.length * c := by
  rw [show l.map f = replicate l.length c from eq_replicate_iff.2 ⟨by simp, by simpa using h⟩, sum_replicate_nat]

theorem Pairwise.eq_or_rel {R : α → α → Prop} (hR : ∀ {x y}, R x y → R y x) {l : List α} (h : l.Pairwise R)
    {x y : α} (hx : x ∈ l) (hy : y ∈ l) : x = y ∨ R x y := by
  induction l with
  | nil => cases hx
  | cons a l ih =>
    rw [pairwise_cons] at h
    rcases mem_cons.mp hx with rfl | hx' <;> rcases mem_cons.mp hy with rfl | hy'
    · exact Or.inl rfl
    · exact Or.inr (h.1 _ hy')
    · exact Or.inr (hR (h.1 _ hx'))
    · exact ih h.2 hx' hy'

theorem length_le_of_nodup_of_lt {n : Nat} {l : List Nat} (hnd : l.Nodup) (hb : ∀ i ∈ l, i < n) : l.length ≤ n := by
  simpa using hnd.length_le_of_subset (l₂ := range n) fun i hi => mem_range.2 (hb i hi)

theorem getElem?_map_range {f : Nat → α} {n i : Nat} {x : α} (h : ((range n).map f)[i]? = some x) : i < n ∧ x = f i := by
  have hi : i < n := by
    have := (getElem?_eq_some_iff.mp h).1
    rwa [length_map, length_range] at this
  rw [getElem?_map, getElem?_range hi] at h
  exact ⟨hi, (Option.some.inj h).symm⟩

theorem filterMap_map_some {p : β → Option α} (c : α → β) (h : ∀ x, p (c x) = some x) (l : List α) :
    (l.map c).filterMap p = l := by
  rw [filterMap_map, show p ∘ c = some from funext h, filterMap_some]

theorem filterMap_map_none {γ : Type _} {p : β → Option γ} (c : α → β) (h : ∀ x, p (c x) = none) (l : List α) :
    (l.map c).filterMap p = [] := by
  rw [filterMap_map]
  exact filterMap_eq_nil_iff.2 fun x _ => h x

theorem length_take_append_drop (xs : List α) {s len : Nat} (h : s + len ≤ xs.length) :
    (xs.take s ++ xs.drop (s + len)).length = xs.length - len := by
  rw [length_append, length_take_of_le (Nat.le_trans (Nat.le_add_right _ _) h), length_drop, ← Nat.add_sub_assoc h,
    Nat.add_sub_add_left]

theorem length_append_sub_one {xs ys : List α} (hne : ys ≠ []) :
    (xs ++ ys).length - 1 = ys.length - 1 + xs.length := by
  rw [length_append, Nat.add_comm, Nat.sub_add_comm (length_pos_iff.mpr hne)]

theorem dropWhile_all_not {R : α → α → Prop} {p : α → Bool} {l : List α} (h : l.Pairwise R)
    (hp : ∀ a b, R a b → p b = true → p a = true) : ∀ y ∈ l.dropWhile p, p y = false := by
  induction l with
  | nil => intro y hy; cases hy
  | cons a t ih =>
    rw [pairwise_cons] at h
    rw [dropWhile_cons]
    split
    · exact ih h.2
    · rename_i ha
      intro y hy
      rcases mem_cons.1 hy with rfl | hy
      · exact Bool.eq_false_iff.2 ha
      · exact Bool.eq_false_iff.2 fun hpy => ha (hp a y (h.1 y hy) hpy)

end List

namespace Nat

theorem div_mul_add_mod_le (s : Nat) {t m : Nat} (h : m ≤ t) : s / t * m + s % t ≤ s :=
  Nat.le_trans (Nat.add_le_add_right (Nat.mul_le_mul_left _ h) _) (Nat.le_of_eq (Nat.mul_comm _ t ▸ Nat.div_add_mod s t))

theorem roundUp_spec (x : Nat) {a : Nat} (ha : 0 < a) :
    ((x + a - 1) / a * a) % a = 0 ∧ x ≤ (x + a - 1) / a * a ∧ (x + a - 1) / a * a < x + a ∧
      ∀ m, m % a = 0 → x ≤ m → (x + a - 1) / a * a ≤ m := by
  obtain ⟨b, rfl⟩ : ∃ b, a = b + 1 := ⟨a - 1, (Nat.sub_add_cancel ha).symm⟩
  rw [Nat.add_succ_sub_one]
  have h1 : (x + b) / (b + 1) * (b + 1) ≤ x + b := Nat.div_mul_le_self _ _
  have h2 : x + b < (x + b) / (b + 1) * (b + 1) + (b + 1) := Nat.lt_div_mul_add ha
  refine ⟨Nat.mul_mod_left _ _, Nat.le_of_add_le_add_right (Nat.le_of_lt_succ h2), Nat.lt_succ_of_le h1,
    fun m hm hxm => Nat.le_of_not_lt fun hlt => ?_⟩
  -- a multiple of `a` below the result is at least `a` below it, hence below `x`
  have := Nat.le_of_dvd (Nat.sub_pos_of_lt hlt) (Nat.dvd_sub (Nat.dvd_mul_left _ _) (Nat.dvd_of_mod_eq_zero hm))
  omega

/-- `(a - x % a) % a` is the distance from `x` up to the next multiple of `a` -/
theorem alignUp_least (x : Nat) {a : Nat} (ha : 0 < a) :
    (x + (a - x % a) % a) % a = 0 ∧ (a - x % a) % a < a ∧ ∀ d, d < (a - x % a) % a → (x + d) % a ≠ 0 := by
  have hml := Nat.mod_lt x ha
  refine ⟨?_, Nat.mod_lt _ ha, fun d hd hc => ?_⟩
  · rw [Nat.add_mod_mod, ← Nat.add_sub_assoc (Nat.le_of_lt hml), Nat.sub_add_comm (Nat.mod_le x a), Nat.add_mod_right,
      Nat.sub_mod_eq_zero_of_mod_eq (Nat.mod_mod x a).symm]
  · -- `x % a + d < a`, so `(x + d) % a = x % a + d`; that is `0` only if `x % a = 0`, and then `d < 0`
    have hd' : d < a - x % a := Nat.lt_of_lt_of_le hd (Nat.mod_le _ _)
    rw [Nat.add_mod, Nat.mod_eq_of_lt (Nat.lt_of_lt_of_le hd' (Nat.sub_le _ _)),
      Nat.mod_eq_of_lt (Nat.add_lt_of_lt_sub' hd')] at hc
    rw [(Nat.add_eq_zero_iff.1 hc).1, (Nat.add_eq_zero_iff.1 hc).2, Nat.sub_zero, Nat.mod_self] at hd
    exact Nat.lt_irrefl 0 hd

/-- the two ways the sources round `x` up to a multiple of `a` agree: both give the least one -/
theorem add_alignUp_eq_roundUp (x : Nat) {a : Nat} (ha : 0 < a) : x + (a - x % a) % a = (x + a - 1) / a * a := by
  obtain ⟨h0, _, hleast⟩ := alignUp_least x ha
  obtain ⟨h0', hle, _, hmin⟩ := roundUp_spec x ha
  refine Nat.le_antisymm (Nat.not_lt.1 fun hlt => ?_) (hmin _ h0 (Nat.le_add_right _ _))
  -- a smaller adjustment than the least one would align `x` too
  exact hleast _ (Nat.sub_lt_left_of_lt_add hle hlt) (by rw [Nat.add_sub_cancel' hle]; exact h0')

/-- the left side is `⌈n / d⌉` as the models compute it -/
theorem ceilDiv_le_iff {n d k : Nat} (hd : 0 < d) : n / d + (if n % d ≠ 0 then 1 else 0) ≤ k ↔ n ≤ k * d := by
  by_cases h : n % d = 0
  · obtain ⟨c, rfl⟩ := Nat.dvd_of_mod_eq_zero h
    rw [if_neg (not_not_intro h), Nat.add_zero, Nat.mul_div_cancel_left _ hd, Nat.mul_comm d c]
    exact (Nat.mul_le_mul_right_iff hd).symm
  · -- `k * d` is a multiple of `d` and `n` is not, so `n ≤ k * d` is strict
    rw [if_pos h, Nat.add_one_le_iff, Nat.div_lt_iff_lt_mul hd]
    exact ⟨Nat.le_of_lt, fun hle => Nat.lt_of_le_of_ne hle fun e => h (e ▸ Nat.mul_mod_left k d)⟩

theorem add_mod_ne_self {c k n : Nat} (hc : c < n) (hk0 : 0 < k) (hk : k < n) : (c + k) % n ≠ c := by
  intro h
  -- `c + k ≡ c (mod n)` makes `n` divide `k`
  have := Nat.sub_mod_eq_zero_of_mod_eq (h.trans (Nat.mod_eq_of_lt hc).symm)
  rw [Nat.add_sub_cancel_left, Nat.mod_eq_of_lt hk] at this
  exact Nat.ne_of_gt hk0 this

end Nat
