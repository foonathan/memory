import MemVerif.Lemmas.CollInv
import MemVerif.Model.CollRunA
/-!
A bucket and the caller's ledger exchange cells: all that `allocate()`, `allocate(n)`, `deallocate(ptr)` and
`deallocate(ptr, n)` on a bucket do to a collection and its caller (`Exch`). The three invariants go over an exchange
(`Exch.inv`, `Exch.grid`, `Exch.measure`); under `CInv` each of the four list operations is one (`CInv.exchPop`, …).
-/
namespace MemVerif.Model

/-- **Bucket `listIndex s` goes from `l` to `l'` and the ledger from `live` to `live'` by exchanging cells**: the free
cells of `l'`, entered with the key `s`, together with `live'` are the entries there were before. -/
structure Exch (c : Coll) (s : Nat) (l l' : AnyList) (live live' : List (Nat × Nat)) : Prop where
  bucket : c.lists[c.listIndex s]? = some l
  same : AnyList.Same l l'
  sinv : l'.SInv c.arena.used []
  perm : (l'.cells.map (fun x => (x, s)) ++ live').Perm (l.cells.map (fun x => (x, s)) ++ live)

namespace Exch
variable {c : Coll} {s : Nat} {l l' : AnyList} {live live' : List (Nat × Nat)}

theorem ranges (arr arrLen : Nat) (x : Exch c s l l' live live') :
    (collRanges arr arrLen (c.setList (c.listIndex s) l') live').Perm (collRanges arr arrLen c live) := by
  -- a free cell of the bucket, entered with the key `s`, has the range a ledger entry with that key has
  have e : ∀ m : AnyList, m.nodeSize = l.nodeSize →
      listRanges m = liveRanges c (m.cells.map fun y => (y, s)) := by
    intro m hm
    unfold listRanges liveRanges
    rw [List.map_map, hm, ← Coll.nsOf_eq x.bucket]
    rfl
  refine collRanges_setList (X := []) arr arrLen x.bucket x.same.ns ?_
  rw [e l rfl, e l' x.same.ns]
  unfold liveRanges
  rw [← List.map_append, ← List.map_append]
  exact x.perm.map _

theorem inv {arr arrLen : Nat} (x : Exch c s l l' live live') (h : CInv arr arrLen c live) :
    CInv arr arrLen (c.setList (c.listIndex s) l') live' := by
  refine h.setList x.bucket x.same x.sinv (h.rinv.perm (x.ranges arr arrLen)) ?_
  intro as has
  rcases List.mem_append.mp (x.perm.subset (List.mem_append_right _ has)) with hm | hm
  · obtain ⟨y, _, rfl⟩ := List.mem_map.mp hm
    exact ⟨l, x.bucket⟩
  · exact h.liveOk as hm

theorem grid (x : Exch c s l l' live live') (hg : c.Grid live) : (c.setList (c.listIndex s) l').Grid live' := by
  have hgl := hg.1 l (List.mem_of_getElem? x.bucket)
  have hns := Coll.nsOf_eq x.bucket
  have hal : ∀ as ∈ l'.cells.map (fun y => (y, s)) ++ live', alignOfNs (c.nsOf as.2) ∣ as.1 := by
    intro as has
    rcases List.mem_append.mp (x.perm.subset has) with hm | hm
    · obtain ⟨y, hy, rfl⟩ := List.mem_map.mp hm
      rw [hns]
      exact hgl.cells y hy
    · exact hg.2 as hm
  constructor
  · refine Coll.forall_mem_setList hg.1 _ (hgl.of_same x.same fun y hy => ?_)
    have := hal (y, s) (List.mem_append_left _ (List.mem_map.mpr ⟨y, hy, rfl⟩))
    rwa [hns] at this
  · intro as has
    rw [Coll.setList_nsOf x.bucket x.same.ns]
    exact hal as (List.mem_append_right _ has)

theorem measure (x : Exch c s l l' live live') (j : Nat) :
    (c.setList (c.listIndex s) l').measure live' j = c.measure live j := by
  have hp := Coll.liveAt_perm c x.perm j
  rw [Coll.liveAt_append, Coll.liveAt_append, Coll.liveAt_tagged, Coll.liveAt_tagged] at hp
  unfold Coll.measure
  rw [Coll.cellsAt_setList x.bucket, Coll.liveAt_ext CExt.setList]
  by_cases hj : j = c.listIndex s
  · subst hj
    rw [if_pos rfl, Coll.cellsAt_eq x.bucket]
    rw [if_pos rfl, if_pos rfl] at hp
    exact hp
  · rw [if_neg hj]
    rw [if_neg (fun h => hj h.symm), if_neg (fun h => hj h.symm)] at hp
    omega

theorem take (hl : c.lists[c.listIndex s]? = some l) (hsame : AnyList.Same l l') (hS : l'.SInv c.arena.used [])
    {A T B : List Nat} (h1 : l.cells = A ++ T ++ B) (h2 : l'.cells = A ++ B) (live : List (Nat × Nat)) :
    Exch c s l l' live (T.map (fun y => (y, s)) ++ live) := by
  refine ⟨hl, hsame, hS, ?_⟩
  rw [h1, h2]
  simp only [List.map_append, List.append_assoc]
  exact List.Perm.append_left _ (List.perm_append_comm_assoc _ _ _)

theorem give (hl : c.lists[c.listIndex s]? = some l) (hsame : AnyList.Same l l') (hS : l'.SInv c.arena.used [])
    {T : List Nat} (h1 : l'.cells.Perm (T ++ l.cells)) (h2 : live.Perm (T.map (fun y => (y, s)) ++ live')) :
    Exch c s l l' live live' := by
  refine ⟨hl, hsame, hS, ?_⟩
  refine ((h1.map _).append_right _).trans (List.Perm.trans ?_ (h2.symm.append_left _))
  rw [List.map_append, List.append_assoc]
  exact List.perm_append_comm_assoc _ _ _

end Exch

theorem perm_append_removeAllOf {α} [DecidableEq α] {l E : List α} (hl : l.Nodup) (hE : E.Nodup) (hsub : ∀ e ∈ E, e ∈ l) :
    l.Perm (E ++ removeAllOf l E) := by
  unfold removeAllOf
  rw [List.perm_ext_iff_of_nodup hl]
  · intro x
    simp only [List.mem_append, List.mem_filter, decide_eq_true_eq]
    constructor
    · intro hx
      by_cases hxe : x ∈ E
      · exact Or.inl hxe
      · exact Or.inr ⟨hx, hxe⟩
    · rintro (hx | ⟨hx, _⟩)
      · exact hsub x hx
      · exact hx
  · rw [List.nodup_append]
    refine ⟨hE, hl.sublist List.filter_sublist, ?_⟩
    intro x hx y hy hxy
    subst hxy
    simp only [List.mem_filter, decide_eq_true_eq] at hy
    exact hy.2 hx

theorem mem_arrEntries {ns a s k x : Nat} : (x, s) ∈ arrEntries ns a s k ↔ ∃ t, t < k ∧ x = a + t * ns := by
  unfold arrEntries
  constructor
  · intro hx
    obtain ⟨y, hy, he⟩ := List.mem_map.mp hx
    obtain ⟨t, ht, rfl⟩ := mem_blockNodes.mp hy
    exact ⟨t, ht, (Prod.mk.inj he).1.symm⟩
  · rintro ⟨t, ht, rfl⟩
    exact List.mem_map.mpr ⟨_, mem_blockNodes.mpr ⟨t, ht, rfl⟩, rfl⟩

theorem arrEntries_nodup {ns a s k : Nat} (hns : 0 < ns) : (arrEntries ns a s k).Nodup := by
  unfold arrEntries List.Nodup
  rw [List.pairwise_map]
  exact (blockNodes_pairwise a ns k).imp (fun {x y} hxy he => by
    have := (Prod.mk.inj he).1
    unfold Apart at hxy
    omega)

section
variable {arr arrLen : Nat} {c : Coll} {live : List (Nat × Nat)}

/-- what the bucket's release functions ask of the cells handed back -/
theorem CInv.heldRun (h : CInv arr arrLen c live) {s : Nat} {l : AnyList} (hl : c.lists[c.listIndex s]? = some l) {a k : Nat}
    (hk : 0 < k) (hcell : ∀ t, t < k → (a + t * l.nodeSize, s) ∈ live) :
    l.CellsApart a k ∧ AnyList.OutObj l.obj a (k * l.nodeSize) ∧ 0 < a := by
  obtain ⟨hint, _, hpos⟩ := h.lists _ l hl
  have hns := Coll.nsOf_eq hl
  obtain ⟨k, rfl⟩ : ∃ k', k = k' + 1 := ⟨k - 1, (Nat.sub_add_cancel hk).symm⟩
  obtain ⟨a1, a2, _⟩ := h.apart
  refine ⟨fun y hy => ?_, ?_, ?_⟩
  · apply span_disjoint hpos k
    intro t ht
    have := a2 l (List.mem_of_getElem? hl) y hy _ (hcell t ht)
    rw [hns] at this
    exact this
  · cases hobj : l.obj with
    | unordered => trivial
    | small P => exact absurd hobj (hint P)
    | ordered B =>
      obtain ⟨p1, p2⟩ := h.proxies _ l hl B hobj
      refine (span_disjoint (a := a) (ns := l.nodeSize) (p := B) (len := 16) (by decide) k fun t ht => ?_).symm
      have := a1 _ (hcell t ht)
      rw [hns] at this
      exact this.symm.imp (Nat.le_trans p2) (fun h1 => Nat.le_trans h1 p1)
  · obtain ⟨b, _, hin⟩ := h.live_in (hcell 0 hk)
    rw [Nat.zero_mul, Nat.add_zero] at hin
    exact hin.pos

theorem CInv.exchPop (h : CInv arr arrLen c live) {s a : Nat} {l l2 : AnyList} (hl : c.lists[c.listIndex s]? = some l)
    (hal : l.allocate = some (l2, a)) : Exch c s l l2 live ((a, s) :: live) := by
  obtain ⟨hint, hS, _⟩ := h.lists _ l hl
  obtain ⟨A, B, hc1, hc2, hsame, hS'⟩ := AnyList.allocate_spec (bytes := 0) hS (Nat.zero_le _) hal
  exact Exch.take hl hsame (hS'.irrel (hsame.intr hint) []) hc1 hc2 live

theorem CInv.exchPopRun (h : CInv arr arrLen c live) {s a n : Nat} {l l2 : AnyList} (hl : c.lists[c.listIndex s]? = some l)
    (hal : l.allocateBytes n = some (l2, some a)) :
    Exch c s l l2 live (arrEntries l.nodeSize a s (cellsOf l.nodeSize n) ++ live) := by
  obtain ⟨hint, hS, hpos⟩ := h.lists _ l hl
  obtain ⟨A, B, hc1, hc2, hsame, hS'⟩ := AnyList.allocateBytes_spec hS hpos hal
  exact Exch.take hl hsame (hS'.irrel (hsame.intr hint) []) hc1 hc2 live

/-- **`deallocate_node(ptr, size)` of the `j`-th cell of the ledger** succeeds in every configuration, by an exchange on
the bucket of `size` -/
theorem CInv.exchPush (cfg : Cfg) (h : CInv arr arrLen c live) {j a s : Nat} (hj : live[j]? = some (a, s)) :
    ∃ l l', c.deallocateNode cfg a s = ⟨c.setList (c.listIndex s) l', .done, []⟩ ∧ Exch c s l l' live (live.eraseIdx j) := by
  obtain ⟨l, hl⟩ := h.liveOk (a, s) (List.mem_of_getElem? hj)
  obtain ⟨hint, hS, _⟩ := h.lists _ l hl
  obtain ⟨hap, hout, ha0⟩ := h.heldRun hl (k := 1) Nat.one_pos fun t ht => by
    obtain rfl : t = 0 := Nat.lt_one_iff.mp ht
    rw [Nat.zero_mul]
    exact List.mem_of_getElem? hj
  rw [Nat.one_mul] at hout
  -- a one-entry ledger made up for the call: `SInv` of an intrusive list does not look at `live` (`SInv.irrel`)
  obtain ⟨l', hd, hperm, hsame, hS'⟩ := AnyList.deallocate_spec cfg (live := [(a, s)]) (i := 0)
    (hS.irrel hint _) rfl hap hout ha0
  refine ⟨l, l', ?_, Exch.give (T := [a]) hl hsame hS' hperm (List.perm_cons_eraseIdx hj)⟩
  simp only [Coll.deallocateNode, hl, hd]

/-- **`deallocate_array(ptr, count, size)` of an array whose cells the caller still holds** succeeds, by an exchange on
the bucket of `size` -/
theorem CInv.exchPushRun (cfg : Cfg) (h : CInv arr arrLen c live) {a count s : Nat} {l : AnyList}
    (hl : c.lists[c.listIndex s]? = some l)
    (hsub : ∀ e ∈ arrEntries l.nodeSize a s (cellsOf l.nodeSize (mul64 count s)), e ∈ live) :
    ∃ l', c.deallocateArray cfg a count s = ⟨c.setList (c.listIndex s) l', .done, []⟩ ∧
      Exch c s l l' live (removeEntries live (arrEntries l.nodeSize a s (cellsOf l.nodeSize (mul64 count s)))) := by
  obtain ⟨hint, hS, hpos⟩ := h.lists _ l hl
  obtain ⟨hap, hout, ha0⟩ := h.heldRun hl (cellsOf_pos _ (mul64 count s) hpos) fun t ht =>
    hsub _ (mem_arrEntries.mpr ⟨t, ht, rfl⟩)
  obtain ⟨l', hd, hperm, hsame, hS'⟩ := AnyList.deallocateBytes_intr cfg hint hS hpos hap hout ha0
  refine ⟨l', ?_, Exch.give hl hsame hS' hperm (perm_append_removeAllOf h.live_nodup (arrEntries_nodup hpos) hsub)⟩
  simp only [Coll.deallocateArray, hl, hd]

theorem ledgerArr_ok (st : Coll) (live : List (Nat × Nat)) (count size a : Nat) :
    ledgerArr st live count size (.ok a) =
      arrEntries (st.nsOf size) a size (cellsOf (st.nsOf size) (mul64 count size)) ++ live := rfl

/-- `allocate(count * size)` with the ledger as `GCollA` keeps it -/
theorem CInv.exchPopRun_ledgerArr (h : CInv arr arrLen c live) {count size a : Nat} {l l2 : AnyList}
    (hl : c.lists[c.listIndex size]? = some l) (hal : l.allocateBytes (mul64 count size) = some (l2, some a)) :
    Exch c size l l2 live (ledgerArr (c.setList (c.listIndex size) l2) live count size (.ok a)) := by
  have x := h.exchPopRun hl hal
  rw [ledgerArr_ok, Coll.setList_nsOf hl x.same.ns, Coll.nsOf_eq hl]
  exact x

end

theorem CInv.popRun {arr arrLen : Nat} {c : Coll} {live : List (Nat × Nat)} (h : CInv arr arrLen c live) {s a n : Nat}
    {l l2 : AnyList} (hl : c.lists[c.listIndex s]? = some l) (hal : l.allocateBytes n = some (l2, some a)) :
    CInv arr arrLen (c.setList (c.listIndex s) l2) (arrEntries l.nodeSize a s (cellsOf l.nodeSize n) ++ live) :=
  (h.exchPopRun hl hal).inv h

theorem Coll.deallocateArray_inv (cfg : Cfg) {arr arrLen : Nat} {c : Coll} {live : List (Nat × Nat)}
    (h : CInv arr arrLen c live) {a count s : Nat} {l : AnyList} (hl : c.lists[c.listIndex s]? = some l)
    (hsub : ∀ e ∈ arrEntries l.nodeSize a s (cellsOf l.nodeSize (mul64 count s)), e ∈ live) :
    (c.deallocateArray cfg a count s).out = .done ∧ (c.deallocateArray cfg a count s).ev = [] ∧
      CInv arr arrLen (c.deallocateArray cfg a count s).st
        (removeEntries live (arrEntries l.nodeSize a s (cellsOf l.nodeSize (mul64 count s)))) := by
  obtain ⟨l', e, x⟩ := h.exchPushRun cfg hl hsub
  rw [e]
  exact ⟨rfl, rfl, x.inv h⟩

end MemVerif.Model
