import MemVerif.Lemmas.OrdSearch
import MemVerif.Lemmas.Cells
/-!
Ordered free list, runs of cells: the invariant `OrdList.Inv` is preserved when a run of address-consecutive cells
is spliced into the list at the position `find_pos` returns (`insert_impl`: a new block, or an array that is
released) and when a contiguous segment of the list is removed (`allocate(n)`), with the cursor updates of the code.
-/
namespace MemVerif.Model

/-- the sequence that positions index (`addr_eq_ext`) -/
def OrdList.ext (l : OrdList) : List Nat := l.B :: l.nodes ++ [l.E]

theorem addr_eq_ext (l : OrdList) (i : Nat) : l.addr i = l.ext.getD i 0 := by
  unfold OrdList.ext OrdList.addr
  cases i with
  | zero => rfl
  | succ j =>
    rw [if_neg (Nat.succ_ne_zero j), List.cons_append, List.getD_cons_succ, List.getD_eq_getElem?_getD,
      List.getD_eq_getElem?_getD, Nat.add_sub_cancel]
    rcases Nat.lt_trichotomy j l.nodes.length with h | rfl | h
    · rw [if_neg (Nat.succ_ne_succ_iff.2 (Nat.ne_of_lt h)), List.getElem?_append_left h]
    · rw [if_pos rfl, List.getElem?_concat_length]; rfl
    · -- beyond the end proxy both sides read the default
      rw [if_neg (Nat.succ_ne_succ_iff.2 (Nat.ne_of_gt h)), List.getElem?_eq_none (Nat.le_of_lt h),
        List.getElem?_eq_none (by rw [List.length_append]; exact h)]

theorem getD_ins_lt {P R S : List Nat} {j : Nat} (h : j < P.length) :
    (P ++ R ++ S).getD j 0 = (P ++ S).getD j 0 := by
  rw [List.getD_eq_getElem?_getD, List.getD_eq_getElem?_getD, List.append_assoc,
    List.getElem?_append_left h, List.getElem?_append_left h]

theorem getD_ins_ge {P R S : List Nat} {j : Nat} (h : P.length ≤ j) :
    (P ++ R ++ S).getD (j + R.length) 0 = (P ++ S).getD j 0 := by
  rw [List.getD_eq_getElem?_getD, List.getD_eq_getElem?_getD,
    List.getElem?_append_right (by rw [List.length_append]; exact Nat.add_le_add_right h _),
    List.getElem?_append_right h, List.length_append, Nat.add_sub_add_right]

theorem getD_ins_mid {P R S : List Nat} {j : Nat} (h : j < R.length) :
    (P ++ R ++ S).getD (P.length + j) 0 = R.getD j 0 := by
  rw [List.getD_eq_getElem?_getD, List.getD_eq_getElem?_getD, List.append_assoc,
    List.getElem?_append_right (Nat.le_add_right _ _), Nat.add_sub_cancel_left, List.getElem?_append_left h]

/-- `a`, `b` are the addresses at two adjacent positions (proxies included): what the cursor pair must be -/
def OrdList.Adj (l : OrdList) (a b : Nat) : Prop := ∃ j, j ≤ l.nodes.length ∧ l.addr j = a ∧ l.addr (j + 1) = b

/-- two lists with the same proxies: the first, `l`, is the one without the run `R`, the second, `l'`, has it after the
nodes `A`. A removal (`remove_run_inv`) goes from the second to the first, a splice (`base_splice`) from the first to the
second. -/
structure RunRel (l l' : OrdList) (A R B' : List Nat) : Prop where
  hB : l'.B = l.B
  hE : l'.E = l.E
  without : l.nodes = A ++ B'
  with_ : l'.nodes = A ++ R ++ B'

namespace RunRel
variable {l l' : OrdList} {A R B' : List Nat}

theorem ext_without (h : RunRel l l' A R B') : l.ext = (l.B :: A) ++ (B' ++ [l.E]) := by
  unfold OrdList.ext; rw [h.without]; simp

theorem ext_with (h : RunRel l l' A R B') : l'.ext = (l.B :: A) ++ R ++ (B' ++ [l.E]) := by
  unfold OrdList.ext; rw [h.with_, h.hB, h.hE]; simp

theorem len (h : RunRel l l' A R B') : l'.nodes.length = l.nodes.length + R.length := by
  rw [h.with_, h.without, List.length_append, List.length_append, List.length_append, Nat.add_right_comm]

theorem lenA (h : RunRel l l' A R B') : A.length ≤ l.nodes.length := by
  rw [h.without]; simp

theorem addr_low (h : RunRel l l' A R B') {j : Nat} (hj : j ≤ A.length) : l'.addr j = l.addr j := by
  rw [addr_eq_ext, addr_eq_ext, h.ext_with, h.ext_without]
  exact getD_ins_lt (Nat.lt_succ_of_le hj)

theorem addr_high (h : RunRel l l' A R B') {j : Nat} (hj : A.length < j) : l'.addr (j + R.length) = l.addr j := by
  rw [addr_eq_ext, addr_eq_ext, h.ext_with, h.ext_without]
  exact getD_ins_ge hj

theorem addr_mid (h : RunRel l l' A R B') {j : Nat} (hj : j < R.length) :
    l'.addr (A.length + j + 1) = R.getD j 0 := by
  rw [Nat.add_right_comm, addr_eq_ext, h.ext_with]
  exact getD_ins_mid hj

/-- the two neighbours of the run are adjacent in the list without it -/
theorem adj_gap (h : RunRel l l' A R B') : l.Adj (l'.addr A.length) (l'.addr (A.length + R.length + 1)) := by
  refine ⟨A.length, h.lenA, (h.addr_low (Nat.le_refl _)).symm, ?_⟩
  rw [Nat.add_right_comm]
  exact (h.addr_high (Nat.lt_succ_self _)).symm

/-- a pair that is adjacent in the list without the run stays adjacent when the run comes in elsewhere -/
theorem adj_with (h : RunRel l l' A R B') {a b : Nat} (hab : l.Adj a b) (hne : a ≠ l.addr A.length) : l'.Adj a b := by
  have hl := h.len
  obtain ⟨c, hc, rfl, rfl⟩ := hab
  rcases Nat.lt_or_gt_of_ne fun e : c = A.length => hne (e ▸ rfl) with hlt | hgt
  · exact ⟨c, hl ▸ Nat.le_add_right_of_le hc, h.addr_low (Nat.le_of_lt hlt), h.addr_low hlt⟩
  · refine ⟨c + R.length, hl ▸ Nat.add_le_add_right hc _, h.addr_high hgt, ?_⟩
    rw [Nat.add_right_comm]
    exact h.addr_high (Nat.lt_succ_of_lt hgt)

/-- a pair that is adjacent in the list with the run stays adjacent when the run goes, unless its second member
goes with it or its first member is the run's last cell -/
theorem adj_without (h : RunRel l l' A R B') {a b : Nat} (hab : l'.Adj a b) (hb : b ∉ R)
    (ha : a ≠ l'.addr (A.length + R.length)) : l.Adj a b := by
  have hl := h.len
  obtain ⟨c, hc, rfl, rfl⟩ := hab
  rcases Nat.lt_or_ge c A.length with hlo | hhi
  · exact ⟨c, Nat.le_trans (Nat.le_of_lt hlo) h.lenA, (h.addr_low (Nat.le_of_lt hlo)).symm, (h.addr_low hlo).symm⟩
  · -- position `c + 1` is not in the run and `c` is not the run's last position: both lie above the run
    have hgt : A.length + R.length < c := by
      refine Nat.lt_of_le_of_ne (Nat.le_of_not_lt fun hlt => hb ?_) fun e => ha (e ▸ rfl)
      obtain ⟨j, rfl⟩ := Nat.exists_eq_add_of_le hhi
      have hj : j < R.length := Nat.lt_of_add_lt_add_left hlt
      exact h.addr_mid hj ▸ getD_mem hj
    obtain ⟨d, rfl⟩ := Nat.exists_eq_add_of_le' (Nat.le_trans (Nat.le_add_left R.length A.length) (Nat.le_of_lt hgt))
    have hAd : A.length < d := Nat.lt_of_add_lt_add_right hgt
    refine ⟨d, Nat.le_of_add_le_add_right (hl ▸ hc), (h.addr_high hAd).symm, ?_⟩
    rw [Nat.add_right_comm]
    exact (h.addr_high (Nat.lt_succ_of_lt hAd)).symm

end RunRel

/-- everything `OrdList.Inv` says except the cursor -/
structure OrdList.Base (l : OrdList) : Prop where
  asc : Ascending l.nodes
  proxies : l.E = l.B + 8 ∧ 0 < l.B
  notNode : l.B ∉ l.nodes ∧ l.E ∉ l.nodes
  apart : ∀ a ∈ l.nodes, a + l.ns ≤ l.B ∨ l.E + 8 ≤ a
  nsPos : 8 ≤ l.ns
  nodePos : ∀ a ∈ l.nodes, 0 < a
  cap : l.cap = l.nodes.length

theorem OrdList.Inv.base {l : OrdList} (h : l.Inv) : l.Base :=
  ⟨h.asc, h.proxies, h.notNode, h.apart, h.nsPos, h.nodePos, h.cap⟩

theorem OrdList.Inv.ns_pos {l : OrdList} (h : l.Inv) : 0 < l.ns := Nat.lt_of_lt_of_le (by decide) h.nsPos

theorem OrdList.Base.posOf_addr {l : OrdList} (h : l.Base) {k : Nat} (hk : k ≤ l.nodes.length + 1) :
    l.posOf (l.addr k) = some k := by
  unfold OrdList.posOf
  rcases Nat.eq_zero_or_pos k with h0 | h0
  · subst h0; rw [addr_zero, if_pos rfl]
  · rcases Nat.lt_or_eq_of_le hk with h1 | h1
    · have hmem := addr_mem l h0 (Nat.le_of_lt_succ h1)
      have hB : ¬ l.addr k = l.B := fun e => h.notNode.1 (e ▸ hmem)
      have hE : ¬ l.addr k = l.E := fun e => h.notNode.2 (e ▸ hmem)
      rw [if_neg hB, if_neg hE, addr_node l h0 (Nat.le_of_lt_succ h1),
        idxOf?_getD h.asc (Nat.sub_one_lt_of_le h0 (Nat.le_of_lt_succ h1))]
      exact congrArg some (Nat.sub_add_cancel h0)
    · have := h.proxies
      subst h1
      rw [addr_end, if_neg (by omega), if_pos rfl]

theorem OrdList.Base.addr_inj {l : OrdList} (h : l.Base) {j k : Nat} (hj : j ≤ l.nodes.length + 1)
    (hk : k ≤ l.nodes.length + 1) (e : l.addr j = l.addr k) : j = k :=
  Option.some.inj ((h.posOf_addr hj).symm.trans (e ▸ h.posOf_addr hk))

theorem OrdList.Base.inv {l : OrdList} (h : l.Base) (hcur : l.Adj l.ldp l.ld) : l.Inv := by
  obtain ⟨j, hj, h1, h2⟩ := hcur
  refine ⟨h.asc, h.proxies, h.notNode, h.apart, h.nsPos, h.nodePos, h.cap, j, hj, ?_, ?_⟩
  · rw [← h1]; exact h.posOf_addr (Nat.le_succ_of_le hj)
  · rw [← h2]; exact h.posOf_addr (Nat.succ_le_succ hj)

theorem OrdList.Inv.cursorAddr {l : OrdList} (h : l.Inv) : l.Adj l.ldp l.ld := by
  obtain ⟨i, hi, h1, h2⟩ := h.cursor
  exact ⟨i, hi, (posOf_some h1).2, (posOf_some h2).2⟩

theorem OrdList.Inv.cursor_iff {l : OrdList} (h : l.Inv) {c : Nat} (hc : c ≤ l.nodes.length) :
    l.ldp = l.addr c ↔ l.ld = l.addr (c + 1) := by
  obtain ⟨j, hj, h1, h2⟩ := h.cursorAddr
  constructor
  · intro hp
    have : j = c := h.base.addr_inj (Nat.le_succ_of_le hj) (Nat.le_succ_of_le hc) (h1.trans hp)
    rw [← h2, this]
  · intro hd
    have : j + 1 = c + 1 := h.base.addr_inj (Nat.succ_le_succ hj) (Nat.succ_le_succ hc) (h2.trans hd)
    rw [← h1, Nat.succ.inj this]

/-- `Base` speaks of the nodes one by one, apart from their order and number: it carries over to a list with the same
proxies each of whose nodes is an old one or is itself clear of the proxy words and not null -/
theorem OrdList.Base.of_nodes {l l' : OrdList} (h : l.Base) (hns : l'.ns = l.ns) (hB : l'.B = l.B) (hE : l'.E = l.E)
    (hasc : Ascending l'.nodes) (hcap : l'.cap = l'.nodes.length)
    (hnode : ∀ a ∈ l'.nodes, a ∈ l.nodes ∨ (a + l.ns ≤ l.B ∨ l.E + 8 ≤ a) ∧ 0 < a) : l'.Base := by
  have hpx := h.proxies
  have hnsP := h.nsPos
  have hclear : ∀ a ∈ l'.nodes, (a + l.ns ≤ l.B ∨ l.E + 8 ≤ a) ∧ 0 < a := fun a ha =>
    (hnode a ha).elim (fun ho => ⟨h.apart a ho, h.nodePos a ho⟩) id
  rw [← hns, ← hB, ← hE] at hclear
  rw [← hB, ← hE] at hpx
  rw [← hns] at hnsP
  refine ⟨hasc, hpx, ⟨fun hh => ?_, fun hh => ?_⟩, fun a ha => (hclear a ha).1, hnsP, fun a ha => (hclear a ha).2, hcap⟩
  · have := (hclear _ hh).1; omega
  · have := (hclear _ hh).1; omega

theorem base_remove {l l' : OrdList} {A R B' : List Nat} (hr : RunRel l' l A R B') (h : l.Base)
    (hns : l'.ns = l.ns) (hc : l'.cap = l.cap - R.length) : l'.Base := by
  have hsl : l'.nodes.Sublist l.nodes := by
    rw [hr.without, hr.with_, List.append_assoc]
    exact List.Sublist.append_left (List.sublist_append_right _ _) _
  refine h.of_nodes hns hr.hB.symm hr.hE.symm (h.asc.sublist hsl) ?_ fun a ha => Or.inl (hsl.subset ha)
  rw [hc, h.cap, hr.len]
  exact Nat.add_sub_cancel ..

/-- **Removing a segment** `R` (`allocate()`, `allocate(n)`): the invariant survives if the cursor is moved to the gap,
or was `(last cell of R, its successor)` and `ldp` is moved to the gap's left side, or lay clear of `R` and stays. -/
theorem remove_run_inv {l l' : OrdList} {A R B' : List Nat} (hI : l.Inv) (hr : RunRel l' l A R B')
    (hns : l'.ns = l.ns) (hc : l'.cap = l.cap - R.length)
    (hcur : (l'.ldp = l.addr A.length ∧ l'.ld = l.addr (A.length + R.length + 1)) ∨
      (l'.ldp = l.addr A.length ∧ l'.ld = l.ld ∧ l.ldp = l.addr (A.length + R.length)) ∨
      (l'.ldp = l.ldp ∧ l'.ld = l.ld ∧ l.ld ∉ R ∧ l.ldp ≠ l.addr (A.length + R.length))) : l'.Inv := by
  apply (base_remove hr hI.base hns hc).inv
  rcases hcur with ⟨h1, h2⟩ | ⟨h1, h2, h3⟩ | ⟨h1, h2, h3, h4⟩
  · rw [h1, h2]; exact hr.adj_gap
  · rw [h1, h2, (hI.cursor_iff (hr.len ▸ Nat.add_le_add_right hr.lenA _)).1 h3]; exact hr.adj_gap
  · rw [h1, h2]; exact hr.adj_without hI.cursorAddr h3 h4

theorem spliceAt_perm (l : OrdList) (i : Nat) (R : List Nat) : (l.spliceAt i R).Perm (R ++ l.nodes) := by
  have h1 : (l.nodes.take i ++ R ++ l.nodes.drop i).Perm (R ++ l.nodes.take i ++ l.nodes.drop i) :=
    List.Perm.append_right _ List.perm_append_comm
  rw [List.append_assoc R] at h1
  rwa [List.take_append_drop] at h1

/-- splicing an ascending run `R` of cells from `m` upwards in at the insert position of `m` keeps the base invariant,
provided `R` ends before the next node (`hgap`) and stays clear of the proxies -/
theorem base_splice {l l' : OrdList} (h : l.Base) {m i : Nat} {R : List Nat} (hA : Around l.nodes m i)
    (hR : Ascending R) (hlo : ∀ x ∈ R, m ≤ x) (hgap : ∀ x ∈ R, ∀ y ∈ l.nodes, m < y → x < y)
    (hout : ∀ x ∈ R, x + l.ns ≤ l.B ∨ l.E + 8 ≤ x) (hm0 : 0 < m)
    (hns : l'.ns = l.ns) (hB : l'.B = l.B) (hE : l'.E = l.E)
    (hn : l'.nodes = l.spliceAt i R) (hc : l'.cap = l.cap + R.length) :
    l'.Base ∧ RunRel l l' (l.nodes.take i) R (l.nodes.drop i) := by
  have hperm := spliceAt_perm l i R
  refine ⟨h.of_nodes hns hB hE ?_ ?_ fun a ha => ?_, hB, hE, (List.take_append_drop i l.nodes).symm, hn⟩
  · -- ascending: `take i < m ≤ R < drop i`
    rw [hn, OrdList.spliceAt]
    unfold Ascending
    rw [List.pairwise_append, List.pairwise_append]
    have hasc := h.asc
    unfold Ascending at hasc
    rw [← List.take_append_drop i l.nodes, List.pairwise_append] at hasc
    refine ⟨⟨hasc.1, hR, fun x hx y hy => Nat.lt_of_lt_of_le (hA.take_lt x hx) (hlo y hy)⟩, hasc.2.1, ?_⟩
    intro x hx y hy
    rcases List.mem_append.mp hx with hx | hx
    · exact hasc.2.2 x hx y hy
    · exact hgap x hx y (List.mem_of_mem_drop hy) (hA.lt_drop y hy)
  · rw [hc, h.cap, hn, hperm.length_eq, List.length_append, Nat.add_comm]
  · rw [hn, hperm.mem_iff, List.mem_append] at ha
    exact ha.symm.imp_right fun hR' => ⟨hout a hR', Nat.lt_of_lt_of_le hm0 (hlo a hR')⟩

/-- **Splicing a run in** (`deallocate`, `insert_impl` and its two callers): with the cursor either set to the run
(`ldp = prev`, `ld = first cell`) or left alone when the run did not go between the cursor pair, the invariant holds. -/
theorem splice_run_inv {l l' : OrdList} (hI : l.Inv) {m i : Nat} {R : List Nat} (hA : Around l.nodes m i)
    (hR : Ascending (m :: R)) (hgap : ∀ x ∈ m :: R, ∀ y ∈ l.nodes, m < y → x < y)
    (hout : ∀ x ∈ m :: R, x + l.ns ≤ l.B ∨ l.E + 8 ≤ x) (hm0 : 0 < m)
    (hns : l'.ns = l.ns) (hB : l'.B = l.B) (hE : l'.E = l.E)
    (hn : l'.nodes = l.spliceAt i (m :: R)) (hc : l'.cap = l.cap + (R.length + 1))
    (hcur : (l'.ldp = l.addr i ∧ l'.ld = m) ∨ (l'.ldp = l.ldp ∧ l'.ld = l.ld ∧ l.addr i ≠ l.ldp)) : l'.Inv := by
  have hlo : ∀ x ∈ m :: R, m ≤ x := fun x hx => by
    rcases List.mem_cons.mp hx with rfl | hx
    · exact Nat.le_refl _
    · exact Nat.le_of_lt ((List.pairwise_cons.mp hR).1 x hx)
  obtain ⟨hbase, hrel⟩ := base_splice hI.base hA hR hlo hgap hout hm0 hns hB hE hn hc
  have hi := hA.1
  have hlenA : (l.nodes.take i).length = i := List.length_take_of_le hi
  apply hbase.inv
  rcases hcur with ⟨h1, h2⟩ | ⟨h1, h2, h3⟩
  · refine ⟨i, hrel.len ▸ Nat.le_add_right_of_le hi, ?_, ?_⟩
    · rw [h1]; exact hrel.addr_low (Nat.le_of_eq hlenA.symm)
    · have := hrel.addr_mid (j := 0) (Nat.succ_pos _)
      rwa [hlenA, ← h2] at this
  · rw [h1, h2]
    exact hrel.adj_with hI.cursorAddr (hlenA.symm ▸ Ne.symm h3)

/-- the run `[m, m + k*ns)` neither contains nor overlaps a node of the list -/
def RunApart (l : OrdList) (m k : Nat) : Prop := ∀ y ∈ l.nodes, y + l.ns ≤ m ∨ m + k * l.ns ≤ y

/-- the run lies outside the two proxy words of the list object -/
def RunOut (l : OrdList) (m k : Nat) : Prop := m + k * l.ns ≤ l.B ∨ l.E + 8 ≤ m

theorem RunApart.notMem {l : OrdList} {m k : Nat} (h : RunApart l m k) (hk : 0 < k) (hns : 0 < l.ns) : m ∉ l.nodes := by
  intro hm
  have := h m hm
  have : 1 * l.ns ≤ k * l.ns := Nat.mul_le_mul_right _ hk
  omega

theorem splice_block_inv {l l' : OrdList} (hI : l.Inv) {m k i : Nat} (hk : 0 < k) (hA : Around l.nodes m i)
    (hrun : RunApart l m k) (hout : RunOut l m k) (hm0 : 0 < m)
    (hns : l'.ns = l.ns) (hB : l'.B = l.B) (hE : l'.E = l.E)
    (hn : l'.nodes = l.spliceAt i (blockNodes m l.ns k)) (hc : l'.cap = l.cap + k)
    (hcur : (l'.ldp = l.addr i ∧ l'.ld = m) ∨ (l'.ldp = l.ldp ∧ l'.ld = l.ld ∧ l.addr i ≠ l.ldp)) : l'.Inv := by
  obtain ⟨k, rfl⟩ : ∃ k', k = k' + 1 := ⟨k - 1, (Nat.sub_add_cancel hk).symm⟩
  have hns0 := hI.ns_pos
  have hbd : ∀ x ∈ blockNodes m l.ns (k + 1), m ≤ x ∧ x + l.ns ≤ m + (k + 1) * l.ns := fun _ => blockNodes_bounds
  refine splice_run_inv hI hA (asc_blockNodes m l.ns (k + 1) hns0) (fun x hx y hy hmy => ?_)
    (fun x hx => Or.imp (Nat.le_trans (hbd x hx).2) (fun h => Nat.le_trans h (hbd x hx).1) hout)
    hm0 hns hB hE hn (by rw [hc, blockNodes_length]) hcur
  -- a node above `m` is not below the run, so it lies above all of it
  rcases hrun y hy with h | h
  · exact absurd hmy (Nat.not_lt.2 (Nat.le_trans (Nat.le_add_right _ _) h))
  · exact Nat.lt_of_lt_of_le (Nat.lt_of_lt_of_le (Nat.lt_add_of_pos_right hns0) (hbd x hx).2) h

end MemVerif.Model
