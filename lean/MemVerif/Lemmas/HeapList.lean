import MemVerif.Model.HeapList
import MemVerif.Lemmas.Cells
/-!
L2 → L1 refinement for the unordered free list, the tools: the representation predicate `HRepr` (the `next` words stored in
the nodes, followed from `first_`, spell out the node sequence of the L1 list and end with `nullptr`), what a store outside
or inside a chain does to it, the linking loop of `insert_impl`, and the simulation of the sequence-level array search by
the pointer-level one. The refinement and frame theorems themselves are `Props/C01Heap.lean`.
-/
namespace MemVerif.Model

/-- following the stored `next` words from `p` visits exactly `xs` and then reaches `nullptr` -/
def Chain (h : Heap) : Nat → List Nat → Prop
  | p, [] => p = 0
  | p, x :: xs => p = x ∧ Chain h (h x) xs

@[simp] theorem Heap.set_same (h : Heap) (a v : Nat) : (h.set a v) a = v := by simp [Heap.set]
theorem Heap.set_other (h : Heap) {a b : Nat} (v : Nat) (hne : b ≠ a) : (h.set a v) b = h b := by simp [Heap.set, hne]

theorem Heap.set_ne {h : Heap} {a v b : Nat} (hne : (h.set a v) b ≠ h b) : b = a :=
  Classical.byContradiction fun e => hne (Heap.set_other h v e)

theorem Chain.set_of_not_mem {h : Heap} {a v : Nat} :
    ∀ {p : Nat} {xs : List Nat}, a ∉ xs → Chain h p xs → Chain (h.set a v) p xs
  | _, [], _, hc => hc
  | _, x :: xs, hn, hc => by
    have hx : x ≠ a := fun e => hn (e ▸ List.mem_cons_self)
    exact ⟨hc.1, by rw [Heap.set_other h v hx]; exact Chain.set_of_not_mem (fun m => hn (List.mem_cons_of_mem _ m)) hc.2⟩

theorem Chain.push {h : Heap} {p a : Nat} {xs : List Nat} (ha : a ∉ xs) (hc : Chain h p xs) :
    Chain (h.set a p) a (a :: xs) :=
  ⟨rfl, by rw [Heap.set_same]; exact hc.set_of_not_mem ha⟩

theorem Chain.head_eq {h : Heap} {p : Nat} {xs : List Nat} (hc : Chain h p xs) : p = xs.headD 0 := by
  cases xs with
  | nil => exact hc
  | cons x xs => exact hc.1

theorem Chain.suffix {h : Heap} {B : List Nat} : ∀ {p : Nat} (R : List Nat), Chain h p (R ++ B) → Chain h (B.headD 0) B
  | _, [], hc => by
    have hc' : Chain h _ B := hc
    rw [← hc'.head_eq]; exact hc'
  | _, _ :: R, hc => Chain.suffix R hc.2

theorem Chain.relink {h : Heap} {R B : List Nat} {a : Nat} :
    ∀ {p : Nat} (A0 : List Nat), (A0 ++ a :: (R ++ B)).Nodup → Chain h p (A0 ++ a :: (R ++ B)) →
      Chain (h.set a (B.headD 0)) p (A0 ++ a :: B)
  | _, [], hnd, hc =>
    have haB : a ∉ B := fun m => (List.nodup_cons.mp hnd).1 (List.mem_append_right _ m)
    by rw [hc.1]; exact (Chain.suffix R hc.2).push haB
  | _, x :: A0, hnd, hc =>
    have hxa : x ≠ a := fun e => (List.nodup_cons.mp hnd).1 (e ▸ List.mem_append_right _ List.mem_cons_self)
    ⟨hc.1, by rw [Heap.set_other h _ hxa]; exact Chain.relink A0 (List.nodup_cons.mp hnd).2 hc.2⟩

/-- the L2 list `hl` represents the L1 list `l` -/
structure HRepr (hl : HList) (l : FreeList) : Prop where
  ns : hl.ns = l.ns
  cap : hl.cap = l.cap
  chain : Chain hl.heap hl.first l.nodes
  nodup : l.nodes.Nodup
  nonzero : ∀ x ∈ l.nodes, x ≠ 0

/-- distinct and non-null carry over to any part of the list -/
theorem HRepr.of_sublist {hl hl' : HList} {l l' : FreeList} (h : HRepr hl l) (hns : hl'.ns = l'.ns) (hcap : hl'.cap = l'.cap)
    (hc : Chain hl'.heap hl'.first l'.nodes) (hsub : l'.nodes.Sublist l.nodes) : HRepr hl' l' :=
  ⟨hns, hcap, hc, h.nodup.sublist hsub, fun x hx => h.nonzero x (hsub.subset hx)⟩

/-- un-linking a segment `R` as `allocate(n)` does: the node in front of it, if there is one, is linked to the node
after it; otherwise `first_` moves there -/
theorem HRepr.unlink {hl : HList} {l : FreeList} (h : HRepr hl l) {A R B : List Nat} (hn : l.nodes = A ++ R ++ B)
    (c : Nat) :
    HRepr { (if A.getLastD 0 ≠ 0 then { hl with heap := hl.heap.set (A.getLastD 0) (B.headD 0) }
              else { hl with first := B.headD 0 }) with cap := hl.cap - c }
      { l with nodes := A ++ B, cap := l.cap - c } := by
  have hsub : (A ++ B).Sublist l.nodes := by
    rw [hn, List.append_assoc A]
    exact (List.sublist_append_right _ _).append_left A
  have hnd := h.nodup
  have hchain := h.chain
  rw [hn] at hchain hnd
  rcases List.eq_nil_or_concat A with rfl | ⟨A0, a, rfl⟩
  · rw [List.getLastD_nil, if_neg (not_not_intro rfl)]
    exact h.of_sublist h.ns (by rw [h.cap]) (Chain.suffix R hchain) hsub
  · have ha0 : a ≠ 0 := h.nonzero a (by rw [hn]; simp)
    rw [List.concat_eq_append] at hchain hnd hsub ⊢
    rw [List.getLastD_concat, if_pos ha0]
    refine h.of_sublist h.ns (by rw [h.cap]) ?_ hsub
    -- `A0 ++ [a] ++ X` is `A0 ++ a :: X`
    rw [List.append_assoc (A0 ++ [a]), List.append_assoc A0, List.singleton_append] at hchain hnd
    rw [List.append_assoc A0, List.singleton_append]
    exact Chain.relink A0 hnd hchain

theorem linkRun_other (h : Heap) (ns : Nat) : ∀ (k cur a : Nat), a ∉ blockNodes cur ns k → (linkRun h cur ns k) a = h a
  | 0, _, _, _ => rfl
  | k + 1, cur, a, hn => by
    simp only [linkRun]
    have h1 : a ≠ cur := fun e => hn (by simp [blockNodes, e])
    have h2 : a ∉ blockNodes (cur + ns) ns k := fun m => hn (by simp [blockNodes, m])
    rw [linkRun_other _ ns k (cur + ns) a h2, Heap.set_other h _ h1]

/-- the loop of `insert_impl` and its final `list_set_next(last, first_)` write only into the cells of the run -/
theorem linkRun_set_other (h : Heap) (ns f : Nat) {k cur a : Nat} (ha : a ∉ blockNodes cur ns (k + 1)) :
    ((linkRun h cur ns k).set (cur + k * ns) f) a = h a := by
  rw [blockNodes_succ_append, List.mem_append, List.mem_singleton, not_or] at ha
  rw [Heap.set_other _ _ ha.2, linkRun_other h ns k cur a ha.1]

/-- … and chain the run in front of the old list -/
theorem chain_linkRun (ns : Nat) (hns : 0 < ns) (nodes : List Nat) (f : Nat) :
    ∀ (k : Nat) (h : Heap) (cur : Nat), (∀ x ∈ blockNodes cur ns (k + 1), x ∉ nodes) → Chain h f nodes →
      Chain ((linkRun h cur ns k).set (cur + k * ns) f) cur (blockNodes cur ns (k + 1) ++ nodes)
  | 0, h, cur, hd, hc => by
    rw [Nat.zero_mul]
    exact hc.push (hd cur List.mem_cons_self)
  | k + 1, h, cur, hd, hc => by
    have hcur : cur ∉ nodes := hd cur List.mem_cons_self
    have ih := chain_linkRun ns hns nodes f k (h.set cur (cur + ns)) (cur + ns)
      (fun x hx => hd x (List.mem_cons_of_mem _ hx)) (hc.set_of_not_mem hcur)
    have hnot : cur ∉ blockNodes (cur + ns) ns (k + 1) := fun m =>
      Nat.not_succ_le_self cur (Nat.le_trans (Nat.add_le_add_left hns cur) (blockNodes_bounds m).1)
    show Chain ((linkRun (h.set cur (cur + ns)) (cur + ns) ns k).set (cur + (k + 1) * ns) f) cur (cur :: _)
    rw [Nat.succ_mul, Nat.add_comm (k * ns), ← Nat.add_assoc]
    -- the word at `cur` is `cur + ns`: neither the rest of the loop nor the final store touches it
    exact ⟨rfl, by rw [linkRun_set_other _ ns f hnot, Heap.set_same]; exact ih⟩

theorem blockNodes_getLastD (f ns k : Nat) (A : List Nat) : (A ++ blockNodes f ns (k + 1)).getLastD 0 = f + k * ns := by
  rw [blockNodes_succ_append, ← List.append_assoc, List.getLastD_concat]

/-- **The pointer-level search computes the sequence-level search.** State correspondence: the nodes seen so far are
`A ++ run` with `run` = `k + 1` consecutive cells from `f`; `xs` are the nodes still ahead, chained from `i.next`. -/
theorem searchLoop_spec (h : Heap) (ns need : Nat) :
    ∀ (xs : List Nat) (fuel : Nat) (A : List Nat) (f k nxt : Nat), xs.length ≤ fuel → Chain h nxt xs →
      (∀ x ∈ xs, x ≠ 0) →
      (searchArrayGo ns need xs A.length (k + 1) (f + k * ns) (A.length + (k + 1)) = none →
        searchLoop h ns need fuel ⟨A.getLastD 0, f, f + k * ns, nxt⟩ ((k + 1) * ns) = none) ∧
      ∀ s L, searchArrayGo ns need xs A.length (k + 1) (f + k * ns) (A.length + (k + 1)) = some (s, L) →
        ∃ A' f' B m, L = m + 1 ∧ A ++ blockNodes f ns (k + 1) ++ xs = A' ++ blockNodes f' ns L ++ B ∧
          A'.length = s ∧
          searchLoop h ns need fuel ⟨A.getLastD 0, f, f + k * ns, nxt⟩ ((k + 1) * ns) =
            some ⟨A'.getLastD 0, f', f' + m * ns, B.headD 0⟩ := by
  intro xs
  induction xs with
  | nil =>
    intro fuel A f k nxt _ hc _
    have : nxt = 0 := hc
    subst this
    exact ⟨fun _ => by cases fuel <;> simp [searchLoop], fun s L hs => by simp [searchArrayGo] at hs⟩
  | cons x xs ih =>
    intro fuel A f k nxt hfuel hc hnz
    obtain ⟨fuel', rfl⟩ := Nat.exists_eq_succ_of_ne_zero (Nat.ne_of_gt (Nat.lt_of_lt_of_le (Nat.succ_pos _) hfuel))
    have hx : nxt = x := hc.1
    subst hx
    have hx0 : nxt ≠ 0 := hnz nxt List.mem_cons_self
    have hfuel' : xs.length ≤ fuel' := Nat.le_of_succ_le_succ hfuel
    have hnz' : ∀ y ∈ xs, y ≠ 0 := fun y hy => hnz y (List.mem_cons_of_mem _ hy)
    have hlast : f + k * ns + ns = f + (k + 1) * ns := by rw [Nat.succ_mul, Nat.add_assoc]
    have hsofar : (k + 1 + 1) * ns = (k + 1) * ns + ns := Nat.succ_mul _ _
    unfold searchArrayGo searchLoop
    dsimp only
    rw [if_neg hx0]
    by_cases hcont : f + k * ns + ns ≠ nxt
    · -- run broken: restart at `nxt`
      rw [if_pos hcont, if_pos hcont]
      have := ih fuel' (A ++ blockNodes f ns (k + 1)) nxt 0 (h nxt) hfuel' hc.2 hnz'
      simp only [List.length_append, blockNodes_length, Nat.zero_mul, Nat.add_zero, Nat.zero_add, Nat.one_mul,
        blockNodes_getLastD] at this
      refine ⟨this.1, fun s L hs => ?_⟩
      obtain ⟨A', f', B, m, hL, e, r⟩ := this.2 s L hs
      refine ⟨A', f', B, m, hL, ?_, r⟩
      rw [← e, blockNodes_one]; simp
    · have hcont' : f + k * ns + ns = nxt := Decidable.of_not_not hcont
      have hnx : nxt = f + (k + 1) * ns := hcont'.symm.trans hlast
      rw [if_neg hcont, if_neg hcont, hsofar]
      by_cases hacc : (k + 1) * ns + ns ≥ need
      · rw [if_pos hacc, if_pos hacc]
        refine ⟨nofun, fun s L hs => ?_⟩
        cases hs
        refine ⟨A, f, xs, k + 1, rfl, ?_, rfl, ?_⟩
        · rw [blockNodes_succ_append _ _ (k + 1), hnx]; simp
        · rw [← hnx, hc.2.head_eq]
      · rw [if_neg hacc, if_neg hacc]
        have := ih fuel' A f (k + 1) (h nxt) hfuel' hc.2 hnz'
        rw [← hnx, hsofar] at this
        refine ⟨this.1, fun s L hs => ?_⟩
        obtain ⟨A', f', B, m, hL, e, r⟩ := this.2 s L hs
        refine ⟨A', f', B, m, hL, ?_, r⟩
        rw [← e, blockNodes_succ_append _ _ (k + 1), hnx]; simp

end MemVerif.Model
