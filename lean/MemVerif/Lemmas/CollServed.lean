import MemVerif.Lemmas.CollExch
import MemVerif.Lemmas.CollFill
import MemVerif.Lemmas.PoolFrame
/-!
Requests on a collection: `allocate_node`, `try_allocate_node`, `allocate_array` (all three stages),
`try_allocate_array`. Each is a `Fill` followed by at most one exchange between the bucket and the ledger (`Served`);
the code of each operation is taken apart once to show that (`Coll.allocateNode_served`, …).
`Kept` collects what a step keeps of a collection and its caller's ledger: the three invariants.
It is had from `Fill`, from `Exch`, hence from `Served`, and it composes, which is all a history needs.
-/
namespace MemVerif.Model

/-- **Shape of a request to bucket `i`**: memory may first move to the buckets (`Fill`); then either nothing is handed
out, or bucket `i` of the state reached hands out the address `a` by `take` (`allocate()` or `allocate(n)`). -/
inductive Served (cfg : Cfg) (S : Prop) (c : Coll) (i : Nat) (take : AnyList → AnyList → Nat → Prop) : PRes Coll → Prop
  | idle {c1 : Coll} {out : Out} {ev : List UpEv} : Fill cfg S c c1 → (∀ a, out ≠ .ok a) → Served cfg S c i take ⟨c1, out, ev⟩
  | took {c1 : Coll} {l1 l2 : AnyList} {a : Nat} {ev : List UpEv} : Fill cfg S c c1 → c1.lists[i]? = some l1 →
      take l1 l2 a → Served cfg S c i take ⟨c1.setList i l2, .ok a, ev⟩

theorem Served.ext {cfg : Cfg} {S : Prop} {c : Coll} {i : Nat} {take : AnyList → AnyList → Nat → Prop} {r : PRes Coll}
    (hs : Served cfg S c i take r) : CExt c r.st := by
  cases hs with
  | idle hF _ => exact hF.grow.ext
  | took hF _ _ => exact hF.grow.ext.trans CExt.setList

theorem Coll.takeNode_served {cfg : Cfg} {S : Prop} {c c1 : Coll} (hF : Fill cfg S c c1) (i : Nat) (ev : List UpEv) :
    Served cfg S c i AnyList.TakeNode (c1.takeNode i ev) := by
  unfold Coll.takeNode
  split
  · rename_i l1 hl1
    split
    · rename_i l2 a hal
      exact .took hF hl1 hal
    · exact .idle hF nofun
  · exact .idle hF nofun

/-- the block sizes, hence the default capacities, are `size_t` values -/
def Coll.CapOk (c : Coll) : Prop := ∀ dc0, c.defCapacity = some dc0 → dc0 < 2 ^ 64

theorem Coll.CapOk.growCapacity_lt {c : Coll} {dc0 : Nat} (h : c.defCapacity = some dc0) (l : AnyList) (hdc : c.CapOk) :
    growCapacity l 64 dc0 < 2 ^ 64 := Model.growCapacity_lt l 64 dc0 (hdc dc0 h)

theorem CInv.capOk {arr arrLen : Nat} {c : Coll} {live : List (Nat × Nat)} (h : CInv arr arrLen c live) : c.CapOk := by
  intro dc0 hdc0
  obtain ⟨b0, rest, hu, _, _, _, t3⟩ := h.blockEnd
  simp only [Coll.defCapacity, Arena.currentBlock_cons hu] at hdc0
  split at hdc0
  · cases hdc0
  · cases hdc0
    -- a share of the usable part of a block that ends at or below `2^62`
    exact Nat.lt_of_le_of_lt
      (Nat.le_trans (Nat.div_le_self _ _) (Nat.le_trans (Nat.sub_le _ _) (Nat.le_trans (Nat.le_add_left _ _) t3))) (by decide)

/-- the first step of the `try_` requests: an empty bucket is refilled from the current block if that has room -/
theorem Coll.tryStep_fill {cfg : Cfg} {S : Prop} {c c1 : Coll} {b : Bool} {i cap : Nat} (hcap : S → cap < 2 ^ 64)
    (h : (if b = true then c.tryReserve cfg i cap else some c) = some c1) : Fill cfg S c c1 := by
  split at h
  · exact Coll.tryReserve_fill hcap h
  · cases h
    exact Fill.refl _

theorem Coll.allocateNode_served (cfg : Cfg) (c : Coll) (size : Nat)
    (env : List (Option Nat)) : Served cfg c.CapOk c (c.listIndex size) AnyList.TakeNode (c.allocateNode cfg size env) := by
  unfold Coll.allocateNode
  refine ite_ind (fun _ => .idle (.refl _) nofun) fun _ => ?_
  dsimp only
  split
  · rename_i l dc0 hl hdc0
    by_cases hemp : l.empty
    · simp only [hemp, if_true]
      have hF := Coll.refill_fill cfg c (c.listIndex size) (Coll.CapOk.growCapacity_lt hdc0 l) env
      split
      · exact Coll.takeNode_served hF _ _
      · exact .idle hF (Coll.refill_out cfg c _ _ env).1
    · simp only [hemp, Bool.false_eq_true, if_false]
      exact Coll.takeNode_served (.refl _) _ _
  · exact .idle (.refl _) nofun

theorem Coll.tryAllocateNode_served (cfg : Cfg) (c : Coll) (size : Nat) :
    Served cfg c.CapOk c (c.listIndex size) AnyList.TakeNode (c.tryAllocateNode cfg size) := by
  unfold Coll.tryAllocateNode
  refine ite_ind (fun _ => .idle (.refl _) nofun) fun _ => ?_
  dsimp only
  split
  · rename_i l dc0 hl hdc0
    split
    · exact .idle (.refl _) nofun
    · rename_i c1 hc1
      have hF : Fill cfg c.CapOk c c1 := Coll.tryStep_fill (Coll.CapOk.growCapacity_lt hdc0 l) hc1
      split
      · rename_i l1 hl1
        refine ite_ind (fun _ => .idle hF nofun) fun _ => ?_
        split
        · rename_i l2 a hal
          exact .took hF hl1 hal
        · exact .idle hF nofun
      · exact .idle hF nofun
  · exact .idle (.refl _) nofun

theorem Coll.allocateArray_served (cfg : Cfg) (c : Coll)
    (count size : Nat) (env : List (Option Nat)) :
    Served cfg c.CapOk c (c.listIndex size) (AnyList.TakeRun (mul64 count size)) (c.allocateArray cfg count size env) := by
  unfold Coll.allocateArray
  refine ite_ind (fun _ => .idle (.refl _) nofun) fun _ => ?_
  dsimp only
  split
  · rename_i l dc0 hl hdc0
    have hdc' := Coll.CapOk.growCapacity_lt hdc0 l
    -- first attempt, on the bucket as it is
    split
    · exact .idle (.refl _) nofun
    · rename_i l' a hfirst
      have hal : l.allocateBytes (mul64 count size) = some (l', some a) := by
        split at hfirst
        · cases hfirst
        · exact hfirst
      exact .took (.refl _) hl hal
    · -- second attempt, after the default capacity was reserved and inserted
      split
      · rename_i r hres
        exact .idle (Coll.reserve_fill_st hdc' hres) (Coll.reserve_ne_ok hres)
      · rename_i r mem hres
        have hF1 := Coll.reserve_fill_st hdc' hres
        split
        · exact .idle hF1 nofun
        · rename_i l1 hl1
          split
          · exact .idle hF1 nofun
          · exact .idle hF1 nofun
          · rename_i l2 hins
            have hF2 := Coll.reserve_insert_fill hdc' hres hl1 hins
            have hl2 := Coll.getElem?_setList_self hl1 l2
            split
            · exact .idle hF2 nofun
            · rename_i l3 a hal
              exact .took hF2 hl2 hal
            · -- third attempt, after a whole number of nodes for the array was reserved and inserted
              refine ite_ind (fun _ => .idle hF2 nofun) fun _ => ?_
              have hsz := fun _ : c.CapOk => mul64_lt (ceilNodes (mul64 count size) l2.nodeSize) l2.nodeSize
              split
              · rename_i r2 hres2
                exact .idle (hF2.trans (Coll.reserve_fill_st hsz hres2)) (Coll.reserve_ne_ok hres2)
              · rename_i r2 mem2 hres2
                have hF3 := hF2.trans (Coll.reserve_fill_st hsz hres2)
                split
                · exact .idle hF3 nofun
                · rename_i l4 hl4
                  split
                  · exact .idle hF3 nofun
                  · exact .idle hF3 nofun
                  · rename_i l5 hins2
                    have hF5 := hF2.trans (Coll.reserve_insert_fill hsz hres2 hl4 hins2)
                    split
                    · rename_i l6 a hal
                      rw [← Coll.setList_setList r2.st _ l5 l6]
                      exact .took hF5 (Coll.getElem?_setList_self hl4 l5) hal
                    · exact .idle hF5 nofun
  · exact .idle (.refl _) nofun

theorem Coll.tryAllocateArray_served (cfg : Cfg) (c : Coll)
    (count size : Nat) :
    Served cfg c.CapOk c (c.listIndex size) (AnyList.TakeRun (mul64 count size)) (c.tryAllocateArray cfg count size) := by
  unfold Coll.tryAllocateArray
  refine ite_ind (fun _ => .idle (.refl _) nofun) fun _ => ?_
  dsimp only
  split
  · rename_i l dc0 hl hdc0
    split
    · exact .idle (.refl _) nofun
    · rename_i c1 hc1
      have hF : Fill cfg c.CapOk c c1 := Coll.tryStep_fill (Coll.CapOk.growCapacity_lt hdc0 l) hc1
      split
      · rename_i l1 hl1
        refine ite_ind (fun _ => .idle hF nofun) fun _ => ?_
        split
        · rename_i l2 a hal
          exact .took hF hl1 hal
        · exact .idle hF nofun
        · exact .idle hF nofun
      · exact .idle hF nofun
  · exact .idle (.refl _) nofun

/-- **Everything a step keeps** of a collection and its caller's ledger: C01, C02 (if it held) and C04 (over
intrusive buckets). -/
structure Kept (arr arrLen : Nat) (c : Coll) (live : List (Nat × Nat)) (c1 : Coll) (live1 : List (Nat × Nat)) : Prop where
  inv : CInv arr arrLen c1 live1
  grid : c.Grid live → c1.Grid live1
  measure : ∀ j, c.measure live j ≤ c1.measure live1 j
  ns : c.Grid live → ∀ s, c1.nsOf s = c.nsOf s

section
variable {arr arrLen : Nat} {c c1 c2 : Coll} {live live1 live2 : List (Nat × Nat)}

theorem Kept.refl (h : CInv arr arrLen c live) : Kept arr arrLen c live c live :=
  ⟨h, id, fun _ => Nat.le_refl _, fun _ _ => rfl⟩

theorem Kept.trans (h1 : Kept arr arrLen c live c1 live1) (h2 : Kept arr arrLen c1 live1 c2 live2) :
    Kept arr arrLen c live c2 live2 :=
  ⟨h2.inv, fun hg => h2.grid (h1.grid hg),
    fun j => Nat.le_trans (h1.measure j) (h2.measure j),
    fun hg s => (h2.ns (h1.grid hg) s).trans (h1.ns hg s)⟩

theorem Fill.kept {cfg : Cfg} {S : Prop} (hF : Fill cfg S c c1) (hS : S) (hf : cfg.fence ≤ 2 ^ 32)
    (h : CInv arr arrLen c live) (hb : BlocksOk c1.arena.used) : Kept arr arrLen c live c1 live :=
  have hs := hF.spec hS hf h hb
  ⟨hs.1, hs.2.gridOf, hF.grow.measure h.allIntr live, fun hg => hs.2.ns hg.1⟩

theorem Exch.kept {s : Nat} {l l' : AnyList} (x : Exch c s l l' live live1) (h : CInv arr arrLen c live) :
    Kept arr arrLen c live (c.setList (c.listIndex s) l') live1 :=
  ⟨x.inv h, x.grid, fun j => Nat.le_of_eq (x.measure j).symm,
    fun _ => Coll.setList_nsOf x.bucket x.same.ns⟩

/-- **What every request keeps.** `led st out` is the caller's ledger after the request: `live` unless an address was
handed out, and in that case what `take` exchanges with the bucket (`ht`). -/
theorem Served.kept {cfg : Cfg} {S : Prop} {s : Nat} {take : AnyList → AnyList → Nat → Prop} {r : PRes Coll}
    (hs : Served cfg S c (c.listIndex s) take r) (hS : S) (hf : cfg.fence ≤ 2 ^ 32) (h : CInv arr arrLen c live)
    (hb : BlocksOk r.st.arena.used) {led : Coll → Out → List (Nat × Nat)}
    (h0 : ∀ {st out}, (∀ a, out ≠ .ok a) → led st out = live)
    (ht : ∀ {c1 l1 l2 a}, CInv arr arrLen c1 live → c1.lists[c1.listIndex s]? = some l1 → take l1 l2 a →
      Exch c1 s l1 l2 live (led (c1.setList (c1.listIndex s) l2) (.ok a))) :
    Kept arr arrLen c live r.st (led r.st r.out) := by
  cases hs with
  | idle hF hne =>
    simp only [h0 hne]
    exact hF.kept hS hf h hb
  | took hF hl htk =>
    have k1 := hF.kept hS hf h hb
    -- `Fill` does not change the bucket key
    rw [← hF.grow.ext.listIndex s] at hl ⊢
    exact k1.trans ((ht k1.inv hl htk).kept k1.inv)

end

theorem GColl.ledger_not_ok {g : GColl} {size : Nat} {out : Out} (h : ∀ a, out ≠ .ok a) :
    g.ledger out (.allocNode size) = g.live := by
  cases out with
  | ok a => exact absurd rfl (h a)
  | _ => rfl

theorem ledgerArr_not_ok {st : Coll} {live : List (Nat × Nat)} {count size : Nat} {out : Out} (h : ∀ a, out ≠ .ok a) :
    ledgerArr st live count size out = live := by
  cases out with
  | ok a => exact absurd rfl (h a)
  | _ => rfl

section
variable {cfg : Cfg} {arr arrLen : Nat} {c : Coll} {live : List (Nat × Nat)} {r : PRes Coll}

/-- **`allocate_node(size)`, `try_allocate_node(size)`**, with the ledger as `GColl` keeps it (the same for both) -/
theorem Served.keptNode {size : Nat} (hs : Served cfg c.CapOk c (c.listIndex size) AnyList.TakeNode r) (h : CInv arr arrLen c live)
    (hf : cfg.fence ≤ 2 ^ 32) (hb : BlocksOk r.st.arena.used) :
    Kept arr arrLen c live r.st ((GColl.mk c live).ledger r.out (.allocNode size)) :=
  hs.kept h.capOk hf h hb (led := fun _ out => (GColl.mk c live).ledger out (.allocNode size))
    GColl.ledger_not_ok (fun h1 hl hal => h1.exchPop hl hal)

/-- **`allocate_array(count, size)`** (all three stages), **`try_allocate_array(count, size)`** -/
theorem Served.keptRun {count size : Nat} (hs : Served cfg c.CapOk c (c.listIndex size) (AnyList.TakeRun (mul64 count size)) r)
    (h : CInv arr arrLen c live) (hf : cfg.fence ≤ 2 ^ 32) (hb : BlocksOk r.st.arena.used) :
    Kept arr arrLen c live r.st (ledgerArr r.st live count size r.out) :=
  hs.kept h.capOk hf h hb (led := fun st out => ledgerArr st live count size out)
    ledgerArr_not_ok (fun h1 hl hal => h1.exchPopRun_ledgerArr hl hal)

end

end MemVerif.Model
