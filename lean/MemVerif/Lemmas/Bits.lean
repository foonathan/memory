/-
Bridge lemmas between `BitVec 64` mask arithmetic and `Nat` arithmetic (no `bv_decide`).
-/
namespace MemVerif.Bits

theorem two_pow_lt {k : Nat} (hk : k < 64) : 2 ^ k < 2 ^ 64 :=
  Nat.pow_lt_pow_right (by decide) hk

theorem min_two_pow (a b : Nat) : min (2 ^ a) (2 ^ b) = 2 ^ min a b := by
  rcases Nat.le_total a b with h | h
  · rw [Nat.min_eq_left h, Nat.min_eq_left (Nat.pow_le_pow_right (by decide) h)]
  · rw [Nat.min_eq_right h, Nat.min_eq_right (Nat.pow_le_pow_right (by decide) h)]

/-- `a` is the 64-bit power of two `2^k`. -/
def IsPow (a : BitVec 64) (k : Nat) : Prop := k < 64 ∧ a.toNat = 2 ^ k

theorem IsPow.lt {a : BitVec 64} {k : Nat} (h : IsPow a k) : k < 64 := h.1
theorem IsPow.toNat {a : BitVec 64} {k : Nat} (h : IsPow a k) : a.toNat = 2 ^ k := h.2

/-! ### wrap-around removed under a no-overflow hypothesis

A `toNat` of a translated formula is pushed to the leaves by `BitVec.toNat_add`, `toNat_mul`, `toNat_sub`, `toNat_udiv`,
`toNat_umod`, `toNat_ofNat`; the `% 2 ^ 64` this leaves at every node go, innermost first, by
`simp (disch := omega) only [Nat.mod_eq_of_lt, sub_wrap]`. -/

theorem toNat_ofNat_lt {n : Nat} (h : n < 2 ^ 64) : (BitVec.ofNat 64 n).toNat = n := Nat.mod_eq_of_lt h

theorem toNat_ne_zero {x : BitVec 64} (h : x ≠ 0#64) : x.toNat ≠ 0 := fun e => h (BitVec.eq_of_toNat_eq e)

theorem ofNat_ne_zero {n : Nat} (h0 : 0 < n) (hlt : n < 2 ^ 64) : BitVec.ofNat 64 n ≠ 0#64 :=
  fun h => Nat.ne_of_gt h0 (toNat_ofNat_lt hlt ▸ h ▸ rfl)

theorem IsPow.ne_zero {a : BitVec 64} {k : Nat} (h : IsPow a k) : a ≠ 0#64 :=
  fun e => Nat.ne_of_gt (Nat.two_pow_pos k) (h.toNat ▸ e ▸ rfl)

/-- the form `BitVec.toNat_sub` gives a difference that does not wrap -/
theorem sub_wrap {a b : Nat} (hb : b ≤ a) (ha : a < 2 ^ 64) : (2 ^ 64 - b + a) % 2 ^ 64 = a - b := by
  rw [← Nat.sub_add_comm (Nat.le_of_lt (Nat.lt_of_le_of_lt hb ha)), Nat.add_comm, Nat.sub_add_comm hb,
    Nat.add_mod_right, Nat.mod_eq_of_lt (Nat.lt_of_le_of_lt (Nat.sub_le _ _) ha)]

/-! ### `x > m ? x : m` in the three spellings the sources use, `x > m ? m : x`, and `x > m ? x - m : 0` -/

theorem ite_gt_eq_max (a b : Nat) : (if a > b then a else b) = max a b := by
  rw [Nat.max_def]
  by_cases h : a ≤ b
  · rw [if_neg (Nat.not_lt.2 h), if_pos h]
  · rw [if_pos (Nat.lt_of_not_le h), if_neg h]

theorem toNat_ite_gt (x m : BitVec 64) : (if x > m then x else m).toNat = max x.toNat m.toNat := by
  rw [apply_ite BitVec.toNat]
  exact ite_gt_eq_max x.toNat m.toNat

theorem toNat_ite_lt (x m : BitVec 64) : (if decide (x < m) then m else x).toNat = max x.toNat m.toNat := by
  by_cases h : x < m
  · rw [if_pos (decide_eq_true h)]; exact (Nat.max_eq_right (Nat.le_of_lt h)).symm
  · rw [if_neg (by rwa [decide_eq_true_eq])]; exact (Nat.max_eq_left (Nat.not_lt.1 h)).symm

theorem toNat_ite_min (x m : BitVec 64) : (if decide (x > m) then m else x).toNat = min x.toNat m.toNat := by
  by_cases h : x > m
  · rw [if_pos (decide_eq_true h)]; exact (Nat.min_eq_right (Nat.le_of_lt h)).symm
  · rw [if_neg (by rwa [decide_eq_true_eq])]; exact (Nat.min_eq_left (Nat.not_lt.1 h)).symm

theorem toNat_ite_sub (x m : BitVec 64) : (if decide (x > m) then x - m else 0#64).toNat = x.toNat - m.toNat := by
  by_cases h : x > m
  · rw [if_pos (decide_eq_true h)]; exact BitVec.toNat_sub_of_le (Nat.le_of_lt h)
  · rw [if_neg (by rwa [decide_eq_true_eq])]; exact (Nat.sub_eq_zero_of_le (Nat.not_lt.1 h)).symm

theorem isPow_shift (k : Nat) (hk : k < 64) : IsPow (1#64 <<< k) k := by
  have h1 : (1#64).toNat = 1 := rfl
  refine ⟨hk, ?_⟩
  rw [BitVec.toNat_shiftLeft, Nat.shiftLeft_eq, h1, Nat.one_mul, Nat.mod_eq_of_lt (two_pow_lt hk)]

theorem toNat_sub_one {a : BitVec 64} {k : Nat} (h : IsPow a k) : (a - 1#64).toNat = 2 ^ k - 1 := by
  rw [← h.2]
  exact BitVec.toNat_sub_of_le (show 1 ≤ a.toNat by rw [h.2]; exact Nat.two_pow_pos k)

theorem toNat_and_mask {a : BitVec 64} {k : Nat} (h : IsPow a k) (x : BitVec 64) :
    (x &&& (a - 1#64)).toNat = x.toNat % 2 ^ k := by
  rw [BitVec.toNat_and, toNat_sub_one h, Nat.and_two_pow_sub_one_eq_mod]

theorem toNat_and_not_add_and {w : Nat} (x m : BitVec w) : (x &&& ~~~m).toNat + (x &&& m).toNat = x.toNat := by
  have hd : (x &&& ~~~m) &&& (x &&& m) = 0#w := by
    ext i hi
    simp only [BitVec.getElem_and, BitVec.getElem_not, BitVec.getElem_zero]
    cases x[i] <;> cases m[i] <;> rfl
  rw [← BitVec.toNat_add_of_and_eq_zero hd, BitVec.add_eq_or_of_and_eq_zero _ _ hd, ← BitVec.and_or_distrib_left,
    BitVec.not_or_self, BitVec.and_allOnes]

theorem toNat_and_not_mask {a : BitVec 64} {k : Nat} (h : IsPow a k) (x : BitVec 64) :
    (x &&& ~~~(a - 1#64)).toNat = x.toNat - x.toNat % 2 ^ k := by
  rw [← toNat_and_mask h x, ← toNat_and_not_add_and x (a - 1#64), Nat.add_sub_cancel]

end MemVerif.Bits
