import MemVerif.Lemmas.Arith
import MemVerif.Lemmas.Cells
/-!
The generated `BitVec 64` size formulas (`min_block_size`, `chunk_count`, `padded_chunk_size`) on naturals, under explicit
no-overflow bounds, and what `small_free_memory_list::insert` builds from a range of bytes: a family of chunks at the
distance `smallStride` (`smallInsertChunks_family`), all fresh, whose capacities add up to the count `insert` reports.
-/
namespace MemVerif.Model
open MemVerif.Gen MemVerif.Bits

theorem chunkOff_eq : chunkOff = 32 := by decide
theorem chunkMax_eq : chunkMax = 255 := by decide
theorem chunkOff_pos : 0 < chunkOff := by decide

theorem freeListMinBlockSize_toNat (ns n : BitVec 64) (h : max ns.toNat 8 * n.toNat < 2 ^ 64) :
    (freeListMinBlockSize ns n).toNat = max ns.toNat 8 * n.toNat := by
  unfold freeListMinBlockSize
  rw [BitVec.toNat_mul_of_lt (by rw [toNat_ite_lt]; exact h), toNat_ite_lt]
  rfl

theorem orderedListMinBlockSize_eq (ns n : BitVec 64) :
    orderedListMinBlockSize ns n = freeListMinBlockSize ns n := rfl

theorem minBlock_div (ns n : BitVec 64) (h : max ns.toNat 8 * n.toNat < 2 ^ 64) :
    (freeListMinBlockSize ns n).toNat / intrusiveNodeSize ns.toNat = n.toNat := by
  rw [freeListMinBlockSize_toNat ns n h, intrusiveNodeSize_eq]
  exact Nat.mul_div_cancel_left _ (Nat.lt_of_lt_of_le (by decide) (Nat.le_max_right _ 8))

theorem smallChunkCount_toNat (n : BitVec 64) : (smallChunkCount n).toNat = ceilNodes n.toNat 255 := by
  unfold smallChunkCount ceilNodes
  simp only [C.chunk_max_nodes, beq_iff_eq, BitVec.toNat_eq, BitVec.toNat_umod, BitVec.toNat_ofNat,
    apply_ite (BitVec.signExtend 64), apply_ite BitVec.toNat, BitVec.toNat_add, BitVec.toNat_udiv, ite_not]
  split
  · show (n.toNat / 255 + 0) % 2 ^ 64 = _
    simp (disch := omega) only [Nat.mod_eq_of_lt]
  · show (n.toNat / 255 + 1) % 2 ^ 64 = _
    simp (disch := omega) only [Nat.mod_eq_of_lt]

theorem smallChunkCount_spec (n : BitVec 64) :
    n.toNat ≤ 255 * (smallChunkCount n).toNat ∧ 255 * (smallChunkCount n).toNat < n.toNat + 255 := by
  rw [smallChunkCount_toNat]
  unfold ceilNodes
  split
  · omega
  · omega

theorem smallPaddedChunkSize_toNat (ns : BitVec 64) (h : 32 + 255 * ns.toNat + 7 < 2 ^ 64) :
    (smallPaddedChunkSize ns).toNat = (32 + 255 * ns.toNat + 7) / 8 * 8 := by
  unfold smallPaddedChunkSize
  simp only [C.chunk_memory_offset, C.chunk_max_nodes, C.alignof_chunk_base, BitVec.toNat_mul, BitVec.toNat_udiv,
    BitVec.toNat_sub, BitVec.toNat_add, BitVec.toNat_ofNat]
  simp (disch := omega) only [Nat.mod_eq_of_lt, sub_wrap]
  rfl

/-- the stride between chunks used by `insert` -/
def smallStride (ns : Nat) : Nat :=
  (chunkOff + ns * chunkMax) + alignOff (chunkOff + ns * chunkMax) C.alignof_chunk.toNat

theorem smallStride_eq (ns : Nat) (h : 32 + 255 * ns < 2 ^ 64) :
    smallStride ns = (32 + 255 * ns + 7) / 8 * 8 := by
  have e : smallStride ns = 32 + 255 * ns + alignOff (32 + 255 * ns) (2 ^ 3) := by rw [Nat.mul_comm]; rfl
  rw [e, alignOff_eq _ 3 (by decide) h]
  exact Nat.add_alignUp_eq_roundUp _ (by decide)

theorem smallPaddedChunkSize_eq_stride (ns : BitVec 64) (h : 32 + 255 * ns.toNat + 7 < 2 ^ 64) :
    (smallPaddedChunkSize ns).toNat = smallStride ns.toNat := by
  rw [smallPaddedChunkSize_toNat ns h, smallStride_eq _ (Nat.lt_of_le_of_lt (Nat.le_add_right _ 7) h)]

theorem smallStride_pos (ns : Nat) : 0 < smallStride ns :=
  Nat.lt_of_lt_of_le chunkOff_pos (Nat.le_trans (Nat.le_add_right _ _) (Nat.le_add_right _ _))

theorem smallInsertChunks_eq (ns mem size : Nat) :
    smallInsertChunks ns mem size =
      if size % smallStride ns ≥ chunkOff + ns then
        (((List.range (size / smallStride ns)).map fun i =>
            Chunk.make (mem + i * smallStride ns) (chunkOff + ns * chunkMax) ns) ++
          [Chunk.make (mem + size / smallStride ns * smallStride ns) (size % smallStride ns) ns],
         size / smallStride ns * chunkMax +
          (Chunk.make (mem + size / smallStride ns * smallStride ns) (size % smallStride ns) ns).noNodes)
      else
        (((List.range (size / smallStride ns)).map fun i =>
            Chunk.make (mem + i * smallStride ns) (chunkOff + ns * chunkMax) ns),
         size / smallStride ns * chunkMax) := rfl

theorem smallInsertChunks_mul (ns mem k : Nat) :
    smallInsertChunks ns mem (k * smallStride ns) =
      ((List.range k).map fun i => Chunk.make (mem + i * smallStride ns) (chunkOff + ns * chunkMax) ns, k * chunkMax) := by
  have hp := smallStride_pos ns
  rw [smallInsertChunks_eq, Nat.mul_mod_left, Nat.mul_div_cancel _ hp]
  have : ¬ (0 ≥ chunkOff + ns) := Nat.not_le.2 (Nat.lt_of_lt_of_le chunkOff_pos (Nat.le_add_right _ _))
  rw [if_neg this]

/-- the chunks of `insert(mem, size)` as one family: chunk `i` is built at `mem + i * stride` over `tot i` bytes, which
hold a header, do not reach the next chunk and end inside the block -/
theorem smallInsertChunks_family (ns mem size : Nat) :
    ∃ (n : Nat) (tot : Nat → Nat),
      (smallInsertChunks ns mem size).1 = (List.range n).map (fun i => Chunk.make (mem + i * smallStride ns) (tot i) ns) ∧
      ∀ i, i < n → chunkOff ≤ tot i ∧ tot i ≤ smallStride ns ∧ i * smallStride ns + tot i ≤ size := by
  have hle : chunkOff + ns * chunkMax ≤ smallStride ns := Nat.le_add_right _ _
  have hpos := smallStride_pos ns
  rw [smallInsertChunks_eq]
  generalize smallStride ns = S at *
  have hfull : ∀ i, i < size / S → i * S + (chunkOff + ns * chunkMax) ≤ size := fun i hi =>
    calc i * S + (chunkOff + ns * chunkMax) ≤ i * S + S := Nat.add_le_add_left hle _
      _ = (i + 1) * S := (Nat.succ_mul i S).symm
      _ ≤ size / S * S := Nat.mul_le_mul_right _ hi
      _ ≤ size := Nat.div_mul_le_self _ _
  split
  · rename_i hrem
    refine ⟨size / S + 1, fun i => if i < size / S then chunkOff + ns * chunkMax else size % S, ?_, fun i hi => ?_⟩
    · have e : (List.range (size / S)).map (fun i => Chunk.make (mem + i * S)
            (if i < size / S then chunkOff + ns * chunkMax else size % S) ns) =
          (List.range (size / S)).map (fun i => Chunk.make (mem + i * S) (chunkOff + ns * chunkMax) ns) :=
        List.map_congr_left fun i hi => by rw [if_pos (List.mem_range.1 hi)]
      rw [List.range_succ, List.map_append, List.map_singleton, e]
      dsimp only
      rw [if_neg (Nat.lt_irrefl _)]
    · dsimp only
      split
      · rename_i h
        exact ⟨Nat.le_add_right _ _, hle, hfull i h⟩
      · rename_i h
        -- the remainder chunk
        obtain rfl : i = size / S := Nat.le_antisymm (Nat.le_of_lt_succ hi) (Nat.not_lt.1 h)
        exact ⟨Nat.le_trans (Nat.le_add_right _ _) hrem, Nat.le_of_lt (Nat.mod_lt _ hpos),
          Nat.le_of_eq (Nat.div_add_mod' _ _)⟩
  · exact ⟨_, fun _ => chunkOff + ns * chunkMax, rfl, fun i hi => ⟨Nat.le_add_right _ _, hle, hfull i hi⟩⟩

theorem Chunk.make_full (base ns : Nat) (h : 0 < ns) :
    (Chunk.make base (chunkOff + ns * chunkMax) ns).noNodes = 255 ∧
    (Chunk.make base (chunkOff + ns * chunkMax) ns).capacity = 255 ∧
    (Chunk.make base (chunkOff + ns * chunkMax) ns).free = List.range 255 := by
  unfold Chunk.make
  simp only
  have : (chunkOff + ns * chunkMax - chunkOff) / ns % 256 = 255 := by
    rw [Nat.add_sub_cancel_left, Nat.mul_div_cancel_left _ h, chunkMax_eq]
  rw [this]
  exact ⟨rfl, rfl, rfl⟩

theorem Chunk.make_inv (base total ns : Nat) :
    (Chunk.make base total ns).capacity = (Chunk.make base total ns).noNodes ∧
    (Chunk.make base total ns).free = List.range (Chunk.make base total ns).noNodes ∧
    (Chunk.make base total ns).noNodes < 256 :=
  ⟨rfl, rfl, Nat.mod_lt _ (by decide)⟩

/-- for `ns = 0` the count `insert` reports is wrong: `C04_small_insert_ns0` -/
theorem smallInsertChunks_sum (ns mem size : Nat) (h : 0 < ns) :
    ((smallInsertChunks ns mem size).1.map Chunk.capacity).sum = (smallInsertChunks ns mem size).2 := by
  have hfull : ∀ k, (((List.range k).map fun i =>
      Chunk.make (mem + i * smallStride ns) (chunkOff + ns * chunkMax) ns).map Chunk.capacity).sum = k * chunkMax := by
    intro k
    rw [List.sum_map_const _ _ 255, List.length_map, List.length_range, chunkMax_eq]
    intro c hc
    obtain ⟨i, _, rfl⟩ := List.mem_map.1 hc
    exact (Chunk.make_full _ ns h).2.1
  rw [smallInsertChunks_eq]
  split
  · rw [List.map_append, List.sum_append, hfull, List.map_singleton, List.sum_singleton, (Chunk.make_inv _ _ _).1]
  · exact hfull _

theorem smallInsertChunks_fresh (ns mem size : Nat) :
    ∀ c ∈ (smallInsertChunks ns mem size).1,
      c.capacity = c.noNodes ∧ c.free = List.range c.noNodes ∧ c.noNodes < 256 := by
  obtain ⟨n, tot, hcs, _⟩ := smallInsertChunks_family ns mem size
  rw [hcs]
  intro c hc
  obtain ⟨i, _, rfl⟩ := List.mem_map.1 hc
  exact Chunk.make_inv _ _ _

theorem smallListMinBlockSize_toNat (ns n : BitVec 64) (h1 : 32 + 255 * ns.toNat + 7 < 2 ^ 64)
    (h2 : (smallChunkCount n).toNat * smallStride ns.toNat < 2 ^ 64) :
    (smallListMinBlockSize ns n).toNat = (smallChunkCount n).toNat * smallStride ns.toNat := by
  unfold smallListMinBlockSize
  rw [BitVec.toNat_mul, smallPaddedChunkSize_eq_stride ns h1, Nat.mod_eq_of_lt h2]

/-- the explicit bound `ns ≤ 2^32`, `n ≤ 2^24` excludes overflow of `min_block_size`: at most `2^17` chunks of at most
`2^41` bytes -/
theorem small_noOverflow (ns n : BitVec 64) (hns : ns.toNat ≤ 2 ^ 32) (hn : n.toNat ≤ 2 ^ 24) :
    32 + 255 * ns.toNat + 7 < 2 ^ 64 ∧ (smallChunkCount n).toNat * smallStride ns.toNat < 2 ^ 58 := by
  have h1 : 32 + 255 * ns.toNat + 7 < 2 ^ 64 := by omega
  refine ⟨h1, ?_⟩
  have hs : smallStride ns.toNat < 2 ^ 41 := by
    rw [smallStride_eq _ (Nat.lt_of_le_of_lt (Nat.le_add_right _ 7) h1)]
    exact Nat.lt_of_le_of_lt (Nat.div_mul_le_self _ _) (by omega)
  have hc : (smallChunkCount n).toNat ≤ 2 ^ 17 := by
    have := (smallChunkCount_spec n).2; omega
  exact Nat.lt_of_le_of_lt (Nat.mul_le_mul_right _ hc) (Nat.mul_lt_mul_of_pos_left hs (by decide))

end MemVerif.Model
