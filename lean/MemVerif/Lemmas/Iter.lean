import MemVerif.Lemmas.StackArith
/-! `iteration_allocator<N>`: under `IterGeo` the region starts `base + i * size / N` are exact, so the `N` regions tile the
block in order; the invariant `Iter.Inv` is re-established in one way (`Inv.update`: one top is set to a point of its
region), which is what a served request and `next_iteration` do. -/
namespace MemVerif.Model

/-- the hypotheses under which the region arithmetic is exact: `N ≥ 1`, `N * size` does not wrap -/
structure IterGeo (n : Nat) (block : Blk) : Prop where
  npos : 0 < n
  nsmall : n < 2 ^ 32
  noWrap : (n + 1) * block.size < 2 ^ 64
  hi : block.base + block.size ≤ 2 ^ 62
  basePos : 0 < block.base

abbrev Iter.Geo (it : Iter) : Prop := IterGeo it.n it.block

theorem Iter.blockStart_eq (it : Iter) (g : it.Geo) (i : Nat) (hi : i ≤ it.n) :
    it.blockStart i = it.block.base + i * it.block.size / it.n := by
  unfold Iter.blockStart
  have hle : i * it.block.size ≤ (it.n + 1) * it.block.size := Nat.mul_le_mul_right _ (Nat.le_succ_of_le hi)
  rw [mul64_eq (Nat.lt_of_le_of_lt hle g.noWrap)]

theorem Iter.blockStart_zero (it : Iter) (g : it.Geo) : it.blockStart 0 = it.block.base := by
  rw [it.blockStart_eq g 0 (by omega)]; simp

theorem Iter.blockStart_n (it : Iter) (g : it.Geo) : it.blockStart it.n = it.block.base + it.block.size := by
  rw [it.blockStart_eq g it.n (Nat.le_refl _), Nat.mul_comm, Nat.mul_div_cancel _ g.npos]

theorem Iter.blockStart_mono (it : Iter) (g : it.Geo) {i j : Nat} (hij : i ≤ j) (hj : j ≤ it.n) :
    it.blockStart i ≤ it.blockStart j := by
  rw [it.blockStart_eq g i (by omega), it.blockStart_eq g j hj]
  apply Nat.add_le_add_left
  exact Nat.div_le_div_right (Nat.mul_le_mul_right _ hij)

theorem Iter.region_inside (it : Iter) (g : it.Geo) {i : Nat} (hi : i < it.n) :
    it.block.base ≤ it.blockStart i ∧ it.blockEnd i ≤ it.block.base + it.block.size := by
  constructor
  · rw [← it.blockStart_zero g]; exact it.blockStart_mono g (by omega) (by omega)
  · unfold Iter.blockEnd
    rw [← it.blockStart_n g]
    exact it.blockStart_mono g (by omega) (Nat.le_refl _)

/-- invariant: every stack's top lies inside its own region -/
structure Iter.Inv (it : Iter) : Prop where
  geo : it.Geo
  len : it.tops.length = it.n
  cur : it.cur < it.n
  topIn : ∀ i, i < it.n → it.blockStart i ≤ it.tops.getD i 0 ∧ it.tops.getD i 0 ≤ it.blockEnd i

theorem Iter.Inv.update {it : Iter} (hI : it.Inv) {i c cur' : Nat} (hi : i < it.n) (hc : cur' < it.n)
    (h1 : it.blockStart i ≤ c) (h2 : c ≤ it.blockEnd i) :
    ({ it with cur := cur', tops := it.tops.set i c } : Iter).Inv ∧ (it.tops.set i c).getD i 0 = c ∧
      ∀ j, j ≠ i → (it.tops.set i c).getD j 0 = it.tops.getD j 0 := by
  have heq : (it.tops.set i c).getD i 0 = c := by
    rw [List.getD_set, if_pos ⟨rfl, hI.len ▸ hi⟩]
  have hne : ∀ j, j ≠ i → (it.tops.set i c).getD j 0 = it.tops.getD j 0 := fun j hj => by
    rw [List.getD_set, if_neg fun h => hj h.1]
  refine ⟨⟨hI.geo, by simp [hI.len], hc, fun j hj => ?_⟩, heq, hne⟩
  by_cases hji : j = i
  · subst hji
    rw [heq]
    exact ⟨h1, h2⟩
  · rw [hne j hji]
    exact hI.topIn j hj

theorem Iter.capacityLeft_eq (it : Iter) (hI : it.Inv) {i : Nat} (hi : i < it.n) :
    it.capacityLeft i = it.blockEnd i - it.tops.getD i 0 :=
  sub64_eq (hI.topIn i hi).2
    (Nat.lt_of_le_of_lt (Nat.le_trans (it.region_inside hI.geo hi).2 hI.geo.hi) (by decide))

theorem Iter.tryAllocate_cases (cfg : Cfg) (it : Iter) (size align : Nat) :
    (fixedAllocate (it.tops.getD it.cur 0) (it.blockEnd it.cur) size align cfg.fence = none ∧
      it.tryAllocate cfg size align = (it, .null)) ∨
    (∃ p c, fixedAllocate (it.tops.getD it.cur 0) (it.blockEnd it.cur) size align cfg.fence = some (p, c) ∧
      it.tryAllocate cfg size align = ({ it with tops := it.tops.set it.cur c }, .ok p)) := by
  unfold Iter.tryAllocate
  dsimp only
  cases hfa : fixedAllocate (it.tops.getD it.cur 0) (it.blockEnd it.cur) size align cfg.fence with
  | none => exact .inl ⟨rfl, rfl⟩
  | some pc => exact .inr ⟨pc.1, pc.2, rfl, rfl⟩

/-- a served bump at the current stack's top (`allocate` and `try_allocate` alike) -/
theorem Iter.alloc_step (cfg : Cfg) (it : Iter) (hI : it.Inv) {size k : Nat} (hk : k < 48) (hs : size < 2 ^ 64)
    (hf : cfg.fence ≤ 2 ^ 16) {p c : Nat}
    (h : fixedAllocate (it.tops.getD it.cur 0) (it.blockEnd it.cur) size (2 ^ k) cfg.fence = some (p, c)) :
    let it' := { it with tops := it.tops.set it.cur c }
    it'.Inv ∧ p % 2 ^ k = 0 ∧ it.tops.getD it.cur 0 + cfg.fence ≤ p ∧ p + size + cfg.fence = c ∧ c ≤ it.blockEnd it.cur ∧
      it'.tops.getD it.cur 0 = c ∧ (∀ j, j ≠ it.cur → it'.tops.getD j 0 = it.tops.getD j 0) := by
  have hti := hI.topIn it.cur hI.cur
  have hend : it.blockEnd it.cur ≤ 2 ^ 62 := Nat.le_trans (it.region_inside hI.geo hI.cur).2 hI.geo.hi
  obtain ⟨k64, he, hf'⟩ := stack_bounds hk hti.2 hend hf
  obtain ⟨h1, h2, _, h4, h5⟩ := fixedAllocate_spec k64 hti.2 he hs hf' h
  have htp : it.tops.getD it.cur 0 ≤ p := Nat.le_trans (Nat.le_add_right _ _) h2
  have hpc : p ≤ c := h4 ▸ Nat.le_trans (Nat.le_add_right _ _) (Nat.le_add_right _ _)
  obtain ⟨hinv, heq, hne⟩ := hI.update hI.cur hI.cur (Nat.le_trans hti.1 (Nat.le_trans htp hpc)) h5
  exact ⟨hinv, h1, h2, h4.symm, h5, heq, hne⟩

theorem Iter.next_inv (it : Iter) (hI : it.Inv) :
    it.nextIteration.Inv ∧ it.nextIteration.cur = (it.cur + 1) % it.n ∧
      it.nextIteration.capacityLeft it.nextIteration.cur =
        it.blockEnd ((it.cur + 1) % it.n) - it.blockStart ((it.cur + 1) % it.n) ∧
      (∀ j, j ≠ (it.cur + 1) % it.n → it.nextIteration.tops.getD j 0 = it.tops.getD j 0) := by
  have hc : (it.cur + 1) % it.n < it.n := Nat.mod_lt _ hI.geo.npos
  have hmono := it.blockStart_mono hI.geo (Nat.le_succ ((it.cur + 1) % it.n)) hc
  obtain ⟨hinv, heq, hne⟩ := hI.update hc hc (Nat.le_refl _) hmono
  exact ⟨hinv, rfl, (Iter.capacityLeft_eq _ hinv hc).trans (congrArg _ heq), hne⟩

/-- `k` calls of `next_iteration` -/
def Iter.nextN (it : Iter) : Nat → Iter
  | 0 => it
  | k + 1 => (it.nextN k).nextIteration

theorem Iter.nextN_spec (it : Iter) (hI : it.Inv) (k : Nat) :
    (it.nextN k).Inv ∧ (it.nextN k).cur = (it.cur + k) % it.n ∧ (it.nextN k).n = it.n := by
  induction k with
  | zero => exact ⟨hI, by simp [Iter.nextN, Nat.mod_eq_of_lt hI.cur], rfl⟩
  | succ k ih =>
    obtain ⟨h1, h2, h3⟩ := ih
    have hn := Iter.next_inv _ h1
    refine ⟨hn.1, ?_, h3⟩
    show (it.nextN k).nextIteration.cur = _
    rw [hn.2.1, h2, h3, Nat.mod_add_mod]
    rfl

theorem Iter.nextN_keeps (it : Iter) (hI : it.Inv) (k : Nat) (hk : k < it.n) :
    (it.nextN k).tops.getD it.cur 0 = it.tops.getD it.cur 0 := by
  induction k with
  | zero => rfl
  | succ k ih =>
    obtain ⟨h1, h2, h3⟩ := it.nextN_spec hI k
    refine ((Iter.next_inv _ h1).2.2.2 it.cur ?_).trans (ih (Nat.lt_of_succ_lt hk))
    rw [h2, h3, Nat.mod_add_mod]
    exact (Nat.add_mod_ne_self hI.cur (Nat.succ_pos k) hk).symm

end MemVerif.Model
