import MemVerif.Lemmas.Replay
/-! Machine-checked counterexamples to `C06_unwind_restores` / `C06_replay_same_addresses` without their hypotheses
`hsrc` (no static block source) and `hlen` (fewer than 2^64 blocks): `C06_hypotheses_needed`. -/
namespace MemVerif.Model

def cfgP : Cfg := { fence := 0 }
def blkP : Blk := ⟨16, 16⟩
def stP (n : Nat) : MemStack :=
  { arena := { src := .growing 1 1 16, isCached := true, used := List.replicate (n + 1) blkP, cached := [] }, cur := 32 }
def envP : EnvS := fun _ => some 16
def envN : EnvS := fun _ => none
def opP : SOp := .alloc 1 1

theorem blkEndP (L : List Blk) : blkEnd (blkP :: L) = some 32 := by
  show some (blkP.usable.base + blkP.usable.size) = some 32
  decide

theorem growP (L : List Blk) : growDec cfgP 32 (blkP :: L) 1 1 = some true := by
  unfold growDec
  rw [blkEndP]
  decide

theorem allocP (n k : Nat) :
    (stP n).allocate cfgP 1 1 [envP k] = (stP (n + 1), .throws .badSize, [.alloc 16 maxAlign (some 16)]) := by
  have hg : growDec cfgP (stP n).cur (stP n).arena.used 1 1 = some true := growP _
  have ha : (stP n).arena.allocateBlock [envP k] =
      .ok ⟨.growing 1 1 (growBlock 1 1 16), true, blkP :: (stP n).arena.used, []⟩ blkP.usable
        [.alloc 16 maxAlign (some 16)] [] := rfl
  have hgb : growBlock 1 1 16 = 16 := by decide
  have h1 : finishCur cfgP blkP.usable 1 1 = 32 := by decide
  have h2 : finishOut cfgP blkP.usable 1 1 = .throws .badSize := by decide
  rw [allocate_eq, hg, ha]
  dsimp only
  rw [h1, h2, hgb]
  rfl

theorem stepP (n k : Nat) :
    runOp cfgP envP (stP n) k opP =
      { st := stP (n + 1), k := k + 1, outs := [.throws .badSize], acquired := [blkP], ok := true } := by
  simp only [opP, runOp, allocP]
  rfl

theorem runP : ∀ (N n k : Nat), runOps cfgP envP (stP n) k (List.replicate N opP) =
      { st := stP (n + N), k := k + N, outs := List.replicate N (.throws .badSize),
        acquired := List.replicate N blkP, ok := true }
  | 0, n, k => by simp only [List.replicate_zero, runOps]; rfl
  | N + 1, n, k => by
    simp only [List.replicate_succ, runOps, stepP, runP N (n + 1) (k + 1)]
    rw [Nat.add_right_comm n 1 N, Nat.add_right_comm k 1 N]
    rfl

theorem wfP : ∀ N : Nat, SOpsWf (List.replicate N opP)
  | 0 => trivial
  | N + 1 => ⟨⟨by decide, 0, by decide, rfl⟩, wfP N⟩

theorem blkP_wf : blkP.Wf := ⟨by decide, by decide, by decide⟩

theorem invP : (stP 0).Inv := .single blkP_wf (by decide) (by decide)

/-- if the block count wraps, the unwind of the enclosing scope pops nothing -/
theorem scopeP (N : Nat) (hk : sub64 N 0 = 0) :
    (runOp cfgP envP (stP 0) 0 (.scope (List.replicate N opP))).st = stP (0 + N) := by
  have htop : (stP 0).top = some ⟨0, 32, 32⟩ := by decide
  simp only [runOp, htop, runP, MemStack.unwind]
  rw [unwindEv_core cfgP (s := stP (0 + N)) rfl]
  have hc : unwindCore cfgP (stP (0 + N)).cur (stP (0 + N)).arena.used ⟨0, 32, 32⟩ = (32, 0, .done) := by
    show unwindCore cfgP 32 (List.replicate (0 + N + 1) blkP) ⟨0, 32, 32⟩ = _
    unfold unwindCore unwindPop
    have hb : blkEnd (List.replicate (0 + N + 1) blkP) = some 32 := blkEndP _
    rw [hb]
    simp only [List.length_replicate, Nat.zero_add, Nat.add_sub_cancel]
    have h1 : ∀ x : Bool, (cfgP.assert && x) = false := fun _ => rfl
    have h2 : (cfgP.ptrCheck && !decide (0 ≤ N)) = false := by simp
    have h3 : (cfgP.ptrCheck && !decide (32 ≥ 32)) = false := by decide
    simp only [hk, h1, h2, h3, Bool.false_eq_true, if_false, ne_eq, not_true_eq_false]
  rw [hc]
  rfl

theorem replayP_first (n k : Nat) (ops : List SOp) :
    (runOps cfgP envN (stP n) k (opP :: ops)).outs =
      .throws .upstream :: (runOps cfgP envN (runOp cfgP envN (stP n) k opP).st (runOp cfgP envN (stP n) k opP).k ops).outs := by
  have hal : ((stP n).allocate cfgP 1 1 [envN k]).2.1 = .throws .upstream := by
    have hg : growDec cfgP (stP n).cur (stP n).arena.used 1 1 = some true := growP _
    have ha : (stP n).arena.allocateBlock [envN k] = .fail (stP n).arena .upstream [.alloc 16 maxAlign none] [] := rfl
    rw [allocate_eq, hg, ha]
  simp only [runOps, opP, runOp, hal, List.singleton_append]

theorem wrap_counterexample_gen (M : Nat) (hk : sub64 (M + 1) 0 = 0) :
    (stP 0).Inv ∧ SOpsWf (List.replicate (M + 1) opP) ∧ cfgP.fence ≤ 2 ^ 16 ∧
      (∀ b ∈ (runOps cfgP envP (stP 0) 0 (List.replicate (M + 1) opP)).acquired, b.Wf) ∧
      (∀ b ∈ (runOp cfgP envP (stP 0) 0 (.scope (List.replicate (M + 1) opP))).acquired, b.Wf) ∧
      (∀ o ∈ (runOps cfgP envP (stP 0) 0 (List.replicate (M + 1) opP)).outs, o ≠ .throws .upstream) ∧
      (runOp cfgP envP (stP 0) 0 (.scope (List.replicate (M + 1) opP))).st.arena.used ≠ (stP 0).arena.used ∧
      (runOps cfgP envN (runOp cfgP envP (stP 0) 0 (.scope (List.replicate (M + 1) opP))).st 0
          (List.replicate (M + 1) opP)).outs ≠
        (runOps cfgP envP (stP 0) 0 (List.replicate (M + 1) opP)).outs := by
  have hacq : ∀ b ∈ (runOps cfgP envP (stP 0) 0 (List.replicate (M + 1) opP)).acquired, b.Wf := by
    rw [runP]
    intro b hb
    rw [(List.mem_replicate.mp hb).2]; exact blkP_wf
  refine ⟨invP, wfP _, by decide, hacq, ?_, ?_, ?_, ?_⟩
  · rw [scope_acquired cfgP envP (stP 0) 0 _ invP.nonempty]; exact hacq
  · rw [runP]
    intro o ho
    rw [(List.mem_replicate.mp ho).2]; decide
  · rw [scopeP _ hk]
    intro h
    have := congrArg List.length h
    simp [stP] at this
  · rw [scopeP _ hk, runP]
    rw [List.replicate_succ, List.replicate_succ, replayP_first]
    intro h
    have := (List.cons.inj h).1
    exact absurd this (by decide)

/-- machine-checked refutation of `C06_unwind_restores` and `C06_replay_same_addresses` without `hlen`, with a growing
(non-static) source: a history of 2^64 allocations each of which pushes a new (well-formed, but not disjoint) block. -/
theorem wrap_counterexample :
    ∃ (cfg : Cfg) (e e' : EnvS) (s : MemStack) (k k' : Nat) (ops : List SOp),
      s.Inv ∧ SOpsWf ops ∧ cfg.fence ≤ 2 ^ 16 ∧ (∀ b ∈ (runOps cfg e s k ops).acquired, b.Wf) ∧
      (∀ b ∈ (runOp cfg e s k (.scope ops)).acquired, b.Wf) ∧
      (∀ o ∈ (runOps cfg e s k ops).outs, o ≠ .throws .upstream) ∧
      (runOp cfg e s k (.scope ops)).st.arena.used ≠ s.arena.used ∧
      (runOps cfg e' (runOp cfg e s k (.scope ops)).st k' ops).outs ≠ (runOps cfg e s k ops).outs :=
  ⟨cfgP, envP, envN, stP 0, 0, 0, List.replicate (18446744073709551615 + 1) opP,
    wrap_counterexample_gen 18446744073709551615 (by decide)⟩

/-- counterexample state: a stack over a `static_block_allocator` with one block in use -/
def cexState : MemStack :=
  { arena := { src := .static_ 1000 100000 1000, isCached := true, used := [⟨100, 100⟩], cached := [] },
    cur := 116 }

theorem cexState_inv : cexState.Inv := .single ⟨by decide, by decide, by decide⟩ (by decide) (by decide)

/-- machine-checked refutation of `C06_unwind_restores` without `hsrc` (static source) -/
theorem scope_restores_counterexample :
    ∃ (cfg : Cfg) (e : EnvS) (s : MemStack) (k : Nat) (ops : List SOp),
      s.Inv ∧ SOpsWf ops ∧ cfg.fence ≤ 2 ^ 16 ∧ (∀ b ∈ (runOp cfg e s k (.scope ops)).acquired, b.Wf) ∧
      (runOp cfg e s k (.scope ops)).st.arena.cached ≠
        s.arena.cached ++ (runOp cfg e s k (.scope ops)).acquired := by
  refine ⟨{ fence := 0 }, fun _ => none, cexState, 0, [.alloc 500 1], cexState_inv, ?_, by decide, ?_, by decide⟩
  · exact ⟨⟨by decide, 0, by decide, rfl⟩, trivial⟩
  · have h : (runOp { fence := 0 } (fun _ => none) cexState 0 (.scope [.alloc 500 1])).acquired = [] := by decide
    intro b hb
    rw [h] at hb
    cases hb

end MemVerif.Model
