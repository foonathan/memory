import MemVerif.Lemmas.Blocks
import MemVerif.Lemmas.Arena
/-!
The code of the pool taken apart once per function into two shapes: `Pool.Grown` for `allocate_block()` (nothing, or a
block pushed, or pushed and inserted) and `Pool.Served` for the four requests (`allocate_block()` at most once, then at
most one address taken from the list). Read off them without any invariant: the arena of an uncached pool only pushes
blocks (`Ext`, `GPool.run_used_suffix`), so the used-block list at the end of a history holds every block it ever held,
which is why the environment's obligation can be stated on the final list. Also the invariant `PInv`/`GInv` of `Props/C01`
and the contract `POp.Fits` of a history.
-/
namespace MemVerif.Model

def PInv (ns : Nat) (p : Pool) (live : List (Nat × Nat)) : Prop :=
  ∃ l, p.list = .free l ∧ l.ns = ns ∧ ListInv l p.arena.used live

/-- **The C01 invariant** of an instrumented pool -/
def GInv (g : GPool) : Prop := PInv g.p.nodeSize g.p g.live

/-- postcondition of an allocation function: a returned address is entered in the ledger with `bytes` -/
def Post (ns : Nat) (live : List (Nat × Nat)) (bytes : Nat) (r : PRes Pool) : Prop :=
  match r.out with
  | .ok a => PInv ns r.st ((a, bytes) :: live)
  | _ => PInv ns r.st live

theorem Post.ledger {ns : Nat} {live : List (Nat × Nat)} {bytes : Nat} {r : PRes Pool} (h : Post ns live bytes r) :
    PInv ns r.st (match r.out with | .ok a => (a, bytes) :: live | _ => live) := by
  unfold Post at h
  cases hr : r.out <;> simp only [hr] at h ⊢ <;> exact h

theorem PInv.nodeSize {ns : Nat} {p : Pool} {live : List (Nat × Nat)} (h : PInv ns p live) : p.nodeSize = ns := by
  obtain ⟨l, hl, hns, _⟩ := h
  simp [Pool.nodeSize, hl, AnyList.nodeSize, hns]

theorem PInv.ginv {ns : Nat} {p : Pool} {live : List (Nat × Nat)} (h : PInv ns p live) : GInv ⟨p, live⟩ := by
  show PInv p.nodeSize p live
  rw [h.nodeSize]
  exact h

theorem GPool.step_nodeSize {ns : Nat} {cfg : Cfg} {e : EnvS} {g : GPool} {k : Nat} {op : POp}
    (h : PInv ns (g.step cfg e k op).1.p (g.step cfg e k op).1.live) : (g.step cfg e k op).1.p.nodeSize = ns :=
  h.nodeSize

def Ext (u u' : List Blk) : Prop := u' = u ∨ ∃ b, u' = b :: u

theorem Ext.refl (u : List Blk) : Ext u u := Or.inl rfl
theorem Ext.suffix {u u' : List Blk} (h : Ext u u') : u <:+ u' := by
  rcases h with rfl | ⟨b, rfl⟩
  · exact List.suffix_refl _
  · exact List.suffix_cons _ _

/-- **Shape of `allocate_block()`**: no block came and nothing has changed; or a block is pushed on the arena and `insert`
of its usable part fails, so that the list stays as it was; or it is pushed and inserted. -/
inductive Pool.Grown (cfg : Cfg) (p : Pool) : PRes Pool → Prop
  | same {out : Out} {ev : List UpEv} : (∀ x, out ≠ .ok x) → Grown cfg p ⟨p, out, ev⟩
  | pushed {a : Arena} {blk : Blk} {out : Out} {ev : List UpEv} : a.used = blk :: p.arena.used →
      (∀ l, p.list.insert cfg blk.usable.base blk.usable.size ≠ .ok l) → (∀ x, out ≠ .ok x) →
      Grown cfg p ⟨{ p with arena := a }, out, ev⟩
  | inserted {a : Arena} {blk : Blk} {l : AnyList} {ev : List UpEv} : a.used = blk :: p.arena.used →
      p.list.insert cfg blk.usable.base blk.usable.size = .ok l → Grown cfg p ⟨{ p with arena := a, list := l }, .done, ev⟩

theorem Pool.allocateBlock_grown (cfg : Cfg) (p : Pool) (env : List (Option Nat)) : Grown cfg p (p.allocateBlock cfg env) := by
  unfold Pool.allocateBlock
  cases h : p.arena.allocateBlock env with
  | envMissing => exact .same nofun
  | fail a e ev env' =>
    obtain ⟨rfl, _⟩ := Arena.allocateBlock_fail h
    exact .same nofun
  | ok a b ev env' =>
    obtain ⟨_, blk, h1, rfl⟩ := Arena.allocateBlock_ok h
    simp only
    cases hins : p.list.insert cfg blk.usable.base blk.usable.size with
    | ok l => exact .inserted h1 hins
    | handler k => exact .pushed h1 (by rw [hins]; nofun) nofun
    | crash => exact .pushed h1 (by rw [hins]; nofun) nofun

theorem Pool.Grown.out {cfg : Cfg} {p : Pool} {r : PRes Pool} (h : Grown cfg p r) (x : Nat) : r.out ≠ .ok x := by
  cases h with
  | same h => exact h x
  | pushed _ _ h => exact h x
  | inserted _ _ => nofun

theorem Pool.Grown.ext {cfg : Cfg} {p : Pool} {r : PRes Pool} (h : Grown cfg p r) : Ext p.arena.used r.st.arena.used := by
  cases h with
  | same _ => exact .inl rfl
  | pushed h1 _ _ => exact .inr ⟨_, h1⟩
  | inserted h1 _ => exact .inr ⟨_, h1⟩

def AnyList.TakeNode (l l' : AnyList) (a : Nat) : Prop := l.allocate = some (l', a)
def AnyList.TakeRun (n : Nat) (l l' : AnyList) (a : Nat) : Prop := l.allocateBytes n = some (l', some a)

/-- **Shape of a request** on the pool `p`, `g` being `p` after `allocate_block()`: the request stays at `p` or goes to
`g`; then either nothing is handed out, or the list of the state reached hands out the address `a` by `take`. -/
inductive Pool.Served (p g : Pool) (take : AnyList → AnyList → Nat → Prop) : PRes Pool → Prop
  | idle {q : Pool} {out : Out} {ev : List UpEv} : q = p ∨ q = g → (∀ a, out ≠ .ok a) → Served p g take ⟨q, out, ev⟩
  | took {q : Pool} {l : AnyList} {a : Nat} {ev : List UpEv} : q = p ∨ q = g → take q.list l a →
      Served p g take ⟨{ q with list := l }, .ok a, ev⟩

/-- whatever does not depend on the list (`f`: the arena, the leak counter) is afterwards what it was, or what
`allocate_block()` made it -/
theorem Pool.Served.frame {α : Type} (f : Pool → α) (hf : ∀ (q : Pool) (l : AnyList), f { q with list := l } = f q)
    {p g : Pool} {take : AnyList → AnyList → Nat → Prop} {r : PRes Pool} (hs : Served p g take r) :
    f r.st = f p ∨ f r.st = f g := by
  cases hs with
  | idle hq _ => exact hq.imp (congrArg f) (congrArg f)
  | took hq _ => exact hq.imp (fun e => (hf _ _).trans (congrArg f e)) (fun e => (hf _ _).trans (congrArg f e))

theorem Pool.allocateNode_served (cfg : Cfg) (p : Pool) (env : List (Option Nat)) :
    Served p (p.allocateBlock cfg env).st AnyList.TakeNode (p.allocateNode cfg env) := by
  unfold Pool.allocateNode
  by_cases hemp : p.list.empty = true
  · simp only [hemp, if_true]
    have hout := (Pool.allocateBlock_grown cfg p env).out
    generalize p.allocateBlock cfg env = r at hout ⊢
    split
    · split
      · exact .idle (.inr rfl) nofun
      · rename_i l a hal
        exact .took (.inr rfl) hal
    · exact .idle (.inr rfl) hout
  · simp only [hemp, Bool.false_eq_true, if_false]
    split
    · exact .idle (.inl rfl) nofun
    · rename_i l a hal
      exact .took (.inl rfl) hal

theorem Pool.tryAllocateNode_served (p g : Pool) : Served p g AnyList.TakeNode p.tryAllocateNode := by
  unfold Pool.tryAllocateNode
  split
  · exact .idle (.inl rfl) nofun
  · split
    · exact .idle (.inl rfl) nofun
    · rename_i l a hal
      exact .took (.inl rfl) hal

theorem Pool.allocateArrayBytes_served (cfg : Cfg) (p : Pool) (bytes : Nat) (env : List (Option Nat)) :
    Served p (p.allocateBlock cfg env).st (AnyList.TakeRun bytes) (p.allocateArrayBytes cfg bytes env) := by
  unfold Pool.allocateArrayBytes
  simp only
  split
  · exact .idle (.inl rfl) nofun
  · rename_i l a hfirst
    -- an address from the first attempt: the list was not empty
    refine .took (.inl rfl) ?_
    split at hfirst
    · cases hfirst
    · exact hfirst
  · have hout := (Pool.allocateBlock_grown cfg p env).out
    generalize p.allocateBlock cfg env = r at hout ⊢
    split
    · split
      · exact .idle (.inr rfl) nofun
      · rename_i l a hal
        exact .took (.inr rfl) hal
      · exact .idle (.inr rfl) nofun
    · exact .idle (.inr rfl) hout

theorem Pool.allocateArray_served (cfg : Cfg) (p : Pool) (n : Nat) (env : List (Option Nat)) :
    Served p (p.allocateBlock cfg env).st (AnyList.TakeRun (mul64 n p.nodeSize)) (p.allocateArray cfg n env) := by
  unfold Pool.allocateArray
  simp only
  generalize (if p.arrays = true then p.nextCapacity else 0) = supported
  split
  · exact .idle (.inl rfl) nofun
  · exact Pool.allocateArrayBytes_served cfg p _ env

theorem Pool.tryAllocateArrayBytes_served (p g : Pool) (bytes : Nat) :
    Served p g (AnyList.TakeRun bytes) (p.tryAllocateArrayBytes bytes) := by
  unfold Pool.tryAllocateArrayBytes
  split
  · exact .idle (.inl rfl) nofun
  · split
    · exact .idle (.inl rfl) nofun
    · rename_i l a hal
      exact .took (.inl rfl) hal
    · exact .idle (.inl rfl) nofun

theorem liftList_frame {α : Type} (f : Pool → α) (hf : ∀ (q : Pool) (l : AnyList), f { q with list := l } = f q)
    (p : Pool) (r : ListRes AnyList) : f (liftList p r).st = f p := by
  cases r
  · exact hf _ _
  · rfl
  · rfl

theorem GPool.step_ext (cfg : Cfg) (e : EnvS) (g : GPool) (k : Nat) (op : POp) :
    Ext g.p.arena.used (g.step cfg e k op).1.p.arena.used := by
  have grow : ∀ {a : Arena}, a = g.p.arena ∨ a = (g.p.allocateBlock cfg [e k]).st.arena → Ext g.p.arena.used a.used := by
    rintro a (rfl | rfl)
    · exact Ext.refl _
    · exact (Pool.allocateBlock_grown cfg g.p _).ext
  unfold GPool.step
  cases op with
  | allocNode => exact grow ((Pool.allocateNode_served cfg g.p _).frame Pool.arena fun _ _ => rfl)
  | tryAllocNode => exact grow ((Pool.tryAllocateNode_served g.p _).frame Pool.arena fun _ _ => rfl)
  | allocArray n => exact grow ((Pool.allocateArray_served cfg g.p n _).frame Pool.arena fun _ _ => rfl)
  | tryAllocArray n => exact grow ((Pool.tryAllocateArrayBytes_served g.p _ _).frame Pool.arena fun _ _ => rfl)
  | dealloc i =>
    simp only [GPool.exec]
    split
    · exact Ext.refl _
    · simp only
      split
      · exact grow (.inl (liftList_frame Pool.arena (fun _ _ => rfl) g.p _))
      · exact grow (.inl (liftList_frame Pool.arena (fun _ _ => rfl) g.p _))

theorem GPool.run_used_suffix (cfg : Cfg) (e : EnvS) (ops : List POp) :
    ∀ (g : GPool) (k : Nat), g.p.arena.used <:+ (g.run cfg e k ops).1.p.arena.used := by
  induction ops with
  | nil => intro g k; exact List.suffix_refl _
  | cons op ops ih =>
    intro g k
    exact (GPool.step_ext cfg e g k op).suffix.trans (ih _ _)

theorem GPool.run_append (cfg : Cfg) (e : EnvS) (ops1 ops2 : List POp) :
    ∀ (g : GPool) (k : Nat), g.run cfg e k (ops1 ++ ops2) =
      (g.run cfg e k ops1).1.run cfg e (g.run cfg e k ops1).2 ops2 := by
  induction ops1 with
  | nil => intro g k; rfl
  | cons op ops ih => intro g k; exact ih _ _

theorem GPool.run_used_prefix (cfg : Cfg) (e : EnvS) (g : GPool) (k : Nat) (ops1 ops2 : List POp) :
    (g.run cfg e k ops1).1.p.arena.used <:+ (g.run cfg e k (ops1 ++ ops2)).1.p.arena.used := by
  rw [GPool.run_append]
  exact GPool.run_used_suffix cfg e ops2 _ _

/-- contract of an operation: the byte count `n * node_size()` of an `allocate_array(n)` request is a `size_t`
value (the library computes it in `size_t` without an overflow check) -/
def POp.Fits (ns : Nat) : POp → Prop
  | .allocArray n => n * ns < 2 ^ 64
  | _ => True

instance (ns : Nat) (op : POp) : Decidable (op.Fits ns) := by
  cases op <;> unfold POp.Fits <;> exact inferInstance

end MemVerif.Model
