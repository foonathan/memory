import MemVerif.Lemmas.CollInv
/-!
The constructor of `memory_pool_collection`: what `Coll.create` builds (`Coll.create_eq`, `Coll.mkList_spec`).
-/
namespace MemVerif.Model

/-- a successful construction: one block, the list array carved from it, lists built by `mkList` -/
theorem Coll.create_eq {cfg : Cfg} {src : Src} {kind : String} {pol : Policy} {arrays : Bool} {maxNode : Nat}
    {env : List (Option Nat)} {c : Coll} {out : Out} {ev : List UpEv}
    (h : Coll.create cfg src kind pol arrays maxNode env = (some c, out, ev)) :
    ∃ a' blk arr cur' n, n = (noElements pol (BitVec.ofNat 64 (minElemOf kind)) (BitVec.ofNat 64 maxNode)).toNat ∧
      a'.used = [blk] ∧
      fixedAllocate blk.usable.base (blk.usable.base + blk.usable.size) (mul64 n (sizeofList kind)) (alignofList kind)
        cfg.fence = some (arr, cur') ∧
      c = ⟨a', cur', pol, minElemOf kind, (List.range n).map (Coll.mkList kind pol arr), arrays, 0⟩ := by
  unfold Coll.create at h
  simp only at h
  split at h
  · cases h
  · cases h
  · rename_i a' b ev' env' ha
    obtain ⟨_, blk, hua, rfl⟩ := Arena.allocateBlock_ok ha
    split at h
    · cases h
    · rename_i arr cur' hfa
      refine ⟨a', blk, arr, cur', _, rfl, hua, hfa, ?_⟩
      -- both remaining outcomes carry the same collection
      split at h
      · simp only [Prod.mk.injEq, Option.some.injEq] at h
        exact h.1.symm
      · split at h
        · cases h
        · simp only [Prod.mk.injEq, Option.some.injEq] at h
          exact h.1.symm

theorem Coll.create_shape {cfg : Cfg} {src : Src} {kind : String} {pol : Policy} {arrays : Bool} {maxNode : Nat}
    {env : List (Option Nat)} {c : Coll} {out : Out} {ev : List UpEv}
    (h : Coll.create cfg src kind pol arrays maxNode env = (some c, out, ev)) :
    c.policy = pol ∧ c.minElem = minElemOf kind ∧ ∃ arr n, c.lists = (List.range n).map (Coll.mkList kind pol arr) := by
  obtain ⟨_, _, arr, _, n, _, _, _, rfl⟩ := Coll.create_eq h
  exact ⟨rfl, rfl, arr, n, rfl⟩

/-- list `i` of a collection over intrusive lists is a fresh `node_pool` or `array_pool` list with the node size the list
constructor stores; the proxy nodes of an `array_pool` list are the `i`-th list object of the array at `arr` -/
theorem Coll.mkList_spec {kind : String} (hk : kind = "free" ∨ kind = "ord") (pol : Policy) (arr i : Nat) :
    (Coll.mkList kind pol arr i).Intr ∧ (Coll.mkList kind pol arr i).cells = [] ∧
    (Coll.mkList kind pol arr i).nodeSize =
      intrusiveNodeSize (pol.sizeFromIndex (BitVec.ofNat 64 i + minSizeIndex pol (BitVec.ofNat 64 (minElemOf kind)))).toNat ∧
    (∀ used, 0 < arr → (Coll.mkList kind pol arr i).SInv used []) ∧
    ∀ B, (Coll.mkList kind pol arr i).obj = .ordered B → B = arr + i * sizeofList kind ∧ sizeofList kind = 48 := by
  rcases hk with rfl | rfl
  · have e : Coll.mkList "free" pol arr i = .free (FreeList.new
        (pol.sizeFromIndex (BitVec.ofNat 64 i + minSizeIndex pol (BitVec.ofNat 64 (minElemOf "free")))).toNat) := by
      simp only [Coll.mkList, if_true]
    rw [e]
    exact ⟨nofun, rfl, rfl, fun _ _ => rfl, nofun⟩
  · have e : Coll.mkList "ord" pol arr i = .ord (OrdList.new
        (pol.sizeFromIndex (BitVec.ofNat 64 i + minSizeIndex pol (BitVec.ofNat 64 (minElemOf "ord")))).toNat
        (arr + i * sizeofList "ord") (arr + i * sizeofList "ord" + 8)) := by
      have hne : ¬ ("ord" = "free") := by decide
      simp only [Coll.mkList, hne, if_false, if_true]
    rw [e]
    refine ⟨nofun, rfl, rfl, fun _ h0 => OrdList.new_inv _ _ (Nat.lt_of_lt_of_le h0 (Nat.le_add_right _ _)), ?_⟩
    intro B hB
    cases hB
    exact ⟨rfl, by decide⟩

end MemVerif.Model
