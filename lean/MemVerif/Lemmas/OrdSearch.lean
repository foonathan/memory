import MemVerif.Model.ListInv
/-! The ordered list's position search. Positions `0 .. n + 1` carry addresses (`addr`; `0` and `n + 1` are the proxies).
A search for `m` keeps "every node up to position `p` is below `m`, every node after `b` is above" (`Below`, `Above`)
while the two cursors close in (`go_spec`); `find_pos` answers at once or chooses the interval to walk, and the
assertion at the entry of the walk repeats that choice (`OrdList.Branch`). What a search finds is the insert index of
`m` (`Around`), and splicing `m` in there is sorted insertion (`insertAsc`). -/
namespace MemVerif.Model

theorem addrA_toArray (l : OrdList) (i : Nat) : l.addrA l.nodes.toArray i = l.addr i := by
  simp [OrdList.addrA, OrdList.addr]

theorem getD_lt {xs : List Nat} {j : Nat} (h : j < xs.length) : xs.getD j 0 = xs[j] :=
  (List.getElem_eq_getD 0).symm

theorem getD_mem {xs : List Nat} {j : Nat} (h : j < xs.length) : xs.getD j 0 ∈ xs := by
  rw [getD_lt h]; exact List.getElem_mem h

theorem asc_getD {xs : List Nat} (ha : Ascending xs) {a b : Nat} (hab : a < b) (hb : b < xs.length) :
    xs.getD a 0 < xs.getD b 0 := by
  rw [getD_lt hb, getD_lt (Nat.lt_trans hab hb)]
  exact (List.pairwise_iff_getElem.mp ha) a b _ _ hab

theorem idxOf?_some {xs : List Nat} {a j : Nat} (h : xs.idxOf? a = some j) :
    j < xs.length ∧ xs.getD j 0 = a :=
  let ⟨hj, h1, _⟩ := List.idxOf?_eq_some_iff.1 h
  ⟨hj, (getD_lt hj).trans h1⟩

theorem idxOf?_getD {xs : List Nat} (ha : Ascending xs) {j : Nat} (hj : j < xs.length) :
    xs.idxOf? (xs.getD j 0) = some j := by
  rw [getD_lt hj]
  exact List.idxOf?_eq_some_iff.2 ⟨hj, rfl, fun k hk => Nat.ne_of_lt (List.pairwise_iff_getElem.mp ha k j _ hj hk)⟩

theorem idxOf?_none {xs : List Nat} {a : Nat} (h : xs.idxOf? a = none) : a ∉ xs :=
  List.idxOf?_eq_none_iff.1 h

theorem iterNext_fwd {n p : Nat} (h : p + 1 ≤ n) :
    iterNext n (some (p + 1)) (some p) = some (some (p + 2), some (p + 1)) := by
  simp [iterNext, Nat.ne_of_lt h]

theorem iterNext_bwd {n c : Nat} (h : c + 1 ≤ n) :
    iterNext n (some (c + 1)) (some (c + 2)) = some (some c, some (c + 1)) := by
  simp [iterNext, Nat.ne_of_lt h]

theorem addr_zero (l : OrdList) : l.addr 0 = l.B := by simp [OrdList.addr]

theorem addr_end (l : OrdList) : l.addr (l.nodes.length + 1) = l.E := by simp [OrdList.addr]

theorem addr_node (l : OrdList) {j : Nat} (h1 : 1 ≤ j) (h2 : j ≤ l.nodes.length) :
    l.addr j = l.nodes.getD (j - 1) 0 := by
  unfold OrdList.addr
  rw [if_neg (Nat.ne_of_gt h1), if_neg (Nat.ne_of_lt (Nat.lt_succ_of_le h2))]

theorem addr_succ (l : OrdList) {j : Nat} (h : j < l.nodes.length) : l.addr (j + 1) = l.nodes.getD j 0 :=
  addr_node l (Nat.succ_pos j) h

theorem addr_mem (l : OrdList) {j : Nat} (h1 : 1 ≤ j) (h2 : j ≤ l.nodes.length) : l.addr j ∈ l.nodes := by
  rw [addr_node l h1 h2]; exact getD_mem (Nat.sub_one_lt_of_le h1 h2)

theorem addr_lt (l : OrdList) (hasc : Ascending l.nodes) {j k : Nat} (h1 : 1 ≤ j) (hjk : j < k)
    (hk : k ≤ l.nodes.length) : l.addr j < l.addr k := by
  have hk1 : 1 ≤ k := Nat.le_trans h1 (Nat.le_of_lt hjk)
  rw [addr_node l h1 (Nat.le_trans (Nat.le_of_lt hjk) hk), addr_node l hk1 hk]
  exact asc_getD hasc (Nat.sub_lt_sub_right h1 hjk) (Nat.sub_one_lt_of_le hk1 hk)

theorem addr_le (l : OrdList) (hasc : Ascending l.nodes) {j k : Nat} (h1 : 1 ≤ j) (hjk : j ≤ k)
    (hk : k ≤ l.nodes.length) : l.addr j ≤ l.addr k := by
  rcases Nat.lt_or_eq_of_le hjk with h | rfl
  · exact Nat.le_of_lt (addr_lt l hasc h1 h hk)
  · exact Nat.le_refl _

theorem posOf_some {l : OrdList} {a k : Nat} (h : l.posOf a = some k) :
    k ≤ l.nodes.length + 1 ∧ l.addr k = a := by
  unfold OrdList.posOf at h
  split at h
  · next e =>
    cases h
    exact ⟨Nat.zero_le _, (addr_zero l).trans e.symm⟩
  · split at h
    · next e =>
      cases h
      exact ⟨Nat.le_refl _, (addr_end l).trans e.symm⟩
    · split at h
      · next i hi =>
        cases h
        obtain ⟨h1, h2⟩ := idxOf?_some hi
        exact ⟨Nat.succ_le_succ (Nat.le_of_lt h1), (addr_succ l h1).trans h2⟩
      · cases h

/-- `i` is the insert index of `m` in `xs` -/
def Around (xs : List Nat) (m i : Nat) : Prop :=
  i ≤ xs.length ∧ (∀ j, j < i → xs.getD j 0 < m) ∧ (∀ j, i ≤ j → j < xs.length → m < xs.getD j 0)

theorem Around.notMem {xs : List Nat} {m i : Nat} (h : Around xs m i) : m ∉ xs := by
  intro hm
  obtain ⟨k, hk, rfl⟩ := List.getElem_of_mem hm
  rw [← getD_lt hk] at h
  rcases Nat.lt_or_ge k i with hki | hki
  · exact Nat.lt_irrefl _ (h.2.1 k hki)
  · exact Nat.lt_irrefl _ (h.2.2 k hki hk)

theorem Around.cons_zero {x m : Nat} {xs : List Nat} (h : Around (x :: xs) m 0) : m < x :=
  h.2.2 0 (Nat.le_refl _) (Nat.succ_pos _)

theorem Around.cons_succ {x m i : Nat} {xs : List Nat} (h : Around (x :: xs) m (i + 1)) : x < m ∧ Around xs m i :=
  ⟨h.2.1 0 (Nat.succ_pos i), Nat.le_of_succ_le_succ h.1, fun j hj => h.2.1 (j + 1) (Nat.succ_lt_succ hj),
    fun j h1 h2 => h.2.2 (j + 1) (Nat.succ_le_succ h1) (Nat.succ_lt_succ h2)⟩

theorem Around.take_lt {xs : List Nat} {m i : Nat} (h : Around xs m i) : ∀ y ∈ xs.take i, y < m := by
  intro y hy
  obtain ⟨j, hj, rfl⟩ := List.mem_take_iff_getElem.mp hy
  rw [Nat.lt_min] at hj
  exact getD_lt hj.2 ▸ h.2.1 j hj.1

theorem Around.lt_drop {xs : List Nat} {m i : Nat} (h : Around xs m i) : ∀ y ∈ xs.drop i, m < y := by
  intro y hy
  obtain ⟨j, hj, rfl⟩ := List.mem_drop_iff_getElem.mp hy
  have hj' : i + j < xs.length := Nat.add_comm j i ▸ hj
  exact getD_lt hj' ▸ h.2.2 (i + j) (Nat.le_add_right i j) hj'

def Below (l : OrdList) (m i : Nat) : Prop := ∀ j, 1 ≤ j → j ≤ i → l.addr j < m

def Above (l : OrdList) (m i : Nat) : Prop := ∀ j, i < j → j ≤ l.nodes.length → m < l.addr j

theorem below_zero (l : OrdList) (m : Nat) : Below l m 0 := fun _ h1 h2 => absurd (Nat.le_trans h1 h2) (by decide)

theorem above_end (l : OrdList) (m : Nat) : Above l m l.nodes.length := fun _ h1 h2 => absurd h2 (Nat.not_le_of_gt h1)

/-- by monotonicity it is enough to look at position `i` itself (nothing to show at the begin proxy) -/
theorem below_of {l : OrdList} (hasc : Ascending l.nodes) {m i : Nat} (hi : i ≤ l.nodes.length)
    (h : 1 ≤ i → l.addr i < m) : Below l m i :=
  fun _ h1 h2 => Nat.lt_of_le_of_lt (addr_le l hasc h1 h2 hi) (h (Nat.le_trans h1 h2))

/-- and at position `i + 1` (nothing to show at the end proxy) -/
theorem above_of {l : OrdList} (hasc : Ascending l.nodes) {m i : Nat}
    (h : i < l.nodes.length → m < l.addr (i + 1)) : Above l m i :=
  fun _ h1 h2 => Nat.lt_of_lt_of_le (h (Nat.lt_of_lt_of_le h1 h2)) (addr_le l hasc (Nat.succ_le_succ (Nat.zero_le _)) h1 h2)

theorem around_of {l : OrdList} {m i : Nat} (hi : i ≤ l.nodes.length) (hb : Below l m i) (ha : Above l m i) :
    Around l.nodes m i :=
  ⟨hi, fun j hj => addr_succ l (Nat.lt_of_lt_of_le hj hi) ▸ hb (j + 1) (Nat.succ_pos j) hj,
    fun j h1 h2 => addr_succ l h2 ▸ ha (j + 1) (Nat.lt_succ_of_le h1) h2⟩

/-- what a search for `m` may answer: the insert position, or, when `m` is on the list, a report (or the
unreachable path) -/
def Found (l : OrdList) (m : Nat) (r : PosOut) : Prop :=
  (∃ i, r = .pos i (i + 1) ∧ Around l.nodes m i) ∨ (m ∈ l.nodes ∧ (r = .report ∨ r = .unreachable))

/-- **The two-cursor walk**: forward cursor at position `p + 1` coming from `p`, backward cursor at `b` coming from
`b + 1`, everything up to `p` below `m`, everything after `b` above `m`. Unless `m` is on the list and is not looked
for (`dbl = false`), the walk answers correctly. -/
theorem go_spec (l : OrdList) (hasc : Ascending l.nodes) (dbl : Bool) (m : Nat) (hd : m ∉ l.nodes ∨ dbl = true) :
    ∀ (fuel p b : Nat), p < l.nodes.length → 1 ≤ b → b ≤ l.nodes.length → b < p + fuel → Below l m p → Above l m b →
      Found l m (OrdList.findPosInterval.go l l.nodes.toArray dbl m fuel (some (p + 1)) (some p) (some b) (some (b + 1))) := by
  intro fuel
  induction fuel with
  | zero =>
    -- the cursors have crossed: position `p` would lie both below and above `m`
    intro p b hp hb1 _ h hlo hhi
    exact absurd (hlo p (Nat.le_trans hb1 (Nat.le_of_lt h)) (Nat.le_refl p)) (Nat.lt_asymm (hhi p h (Nat.le_of_lt hp)))
  | succ fuel ih =>
    intro p b hp hb1 hb hf hlo hhi
    unfold OrdList.findPosInterval.go
    simp only [addrO, addrA_toArray]
    by_cases h1 : l.addr (p + 1) > m
    · rw [if_pos h1]
      exact Or.inl ⟨p, rfl, around_of (Nat.le_of_lt hp) hlo (above_of hasc fun _ => h1)⟩
    rw [if_neg h1]
    by_cases h2 : l.addr b < m
    · rw [if_pos h2]
      exact Or.inl ⟨b, rfl, around_of hb (below_of hasc hb fun _ => h2) hhi⟩
    rw [if_neg h2]
    by_cases h3 : (dbl && (l.addr (p + 1) == m || l.addr b == m)) = true
    · rw [if_pos h3]
      simp only [Bool.and_eq_true, Bool.or_eq_true, beq_iff_eq] at h3
      refine Or.inr ⟨?_, Or.inl rfl⟩
      rcases h3.2 with h | h
      · exact h ▸ addr_mem l (Nat.succ_pos p) hp
      · exact h ▸ addr_mem l hb1 hb
    rw [if_neg h3]
    -- neither cursor stands on `m`, so `m` lies strictly between them: both move and stay apart
    have hne : l.addr (p + 1) ≠ m ∧ l.addr b ≠ m := by
      rcases hd with hd | hd
      · exact ⟨fun h => hd (h ▸ addr_mem l (Nat.succ_pos p) hp), fun h => hd (h ▸ addr_mem l hb1 hb)⟩
      · subst hd; simpa only [Bool.true_and, Bool.or_eq_true, beq_iff_eq, not_or] using h3
    have hpm : l.addr (p + 1) < m := Nat.lt_of_le_of_ne (Nat.le_of_not_gt h1) hne.1
    have hmb : m < l.addr b := Nat.lt_of_le_of_ne (Nat.le_of_not_gt h2) (Ne.symm hne.2)
    have hlt : l.addr (p + 1) < l.addr b := Nat.lt_trans hpm hmb
    have hpb : p + 1 < b := Nat.lt_of_not_le fun hle => Nat.not_le_of_gt hlt (addr_le l hasc hb1 hle hp)
    obtain ⟨b', rfl⟩ : ∃ b', b = b' + 1 := ⟨b - 1, (Nat.sub_add_cancel hb1).symm⟩
    simp only [List.size_toArray, iterNext_fwd hp, iterNext_bwd hb, if_pos hlt]
    exact ih (p + 1) b' (Nat.lt_of_lt_of_le hpb hb) (Nat.le_trans (Nat.le_add_left 1 p) (Nat.le_of_lt_succ hpb))
      (Nat.le_of_succ_le hb)
      (Nat.lt_of_lt_of_le (Nat.lt_of_succ_lt_succ hf) (Nat.add_le_add_right (Nat.le_succ p) fuel))
      (below_of hasc hp fun _ => hpm) (above_of hasc fun _ => hmb)

/-- `xor_list_get_other(begin, nullptr)`: the first node is at position 1, also when there is none (then it is the end
proxy) -/
theorem firstPos_eq (n : Nat) : (if n = 0 then n + 1 else 1) = 1 := by
  cases n <;> rfl

theorem lastPos_eq (n : Nat) : (if n = 0 then 0 else n) = n := by
  cases n <;> rfl

/-- **The branch selection of `find_pos`**, which the assertion at the entry of `find_pos_interval` repeats: `r` is
what `find_pos` answers for `m` and `a` says whether the assertion fails. -/
inductive OrdList.Branch (l : OrdList) (dbl : Bool) (m : Nat) : PosOut → Bool → Prop
  /-- one of the three tests at the start (before the first node, after the last, between the cursor pair) succeeds -/
  | direct {i : Nat} : Around l.nodes m i → Branch l dbl m (.pos i (i + 1)) false
  /-- the walk is started on the positions `p + 1 .. b` (`first .. ldp` or `ld .. last`); `m` lies between their nodes -/
  | walk {p b : Nat} : p < l.nodes.length → 1 ≤ b → b ≤ l.nodes.length → l.addr (p + 1) ≤ m → m ≤ l.addr b →
      Branch l dbl m
        (OrdList.findPosInterval.go l l.nodes.toArray dbl m (l.nodes.length + 3) (some (p + 1)) (some p) (some b) (some (b + 1)))
        (!(decide (l.addr (p + 1) < m) && decide (m < l.addr b)))
  /-- `m` is the node `last_dealloc_` -/
  | cursor : m ∈ l.nodes → Branch l dbl m .unreachable false

theorem findPos_branch (l : OrdList) (hI : l.Inv) (dbl : Bool) (m : Nat) :
    OrdList.Branch l dbl m (l.findPos dbl m) (l.intervalAssertFails m) := by
  obtain ⟨i, hi, hldp, hld⟩ := hI.cursor
  have eldp : l.addr i = l.ldp := (posOf_some hldp).2
  have eld : l.addr (i + 1) = l.ld := (posOf_some hld).2
  have hasc := hI.asc
  unfold OrdList.findPos OrdList.intervalAssertFails
  simp only [hld, hldp, List.size_toArray, addrA_toArray, OrdList.findPosInterval, firstPos_eq, lastPos_eq]
  by_cases h1 : l.addr 1 > m
  · simp only [if_pos h1]
    exact .direct (around_of (Nat.zero_le _) (below_zero l m) (above_of hasc fun _ => h1))
  simp only [if_neg h1]
  by_cases h2 : l.addr l.nodes.length < m
  · simp only [if_pos h2]
    exact .direct (around_of (Nat.le_refl _) (below_of hasc (Nat.le_refl _) fun _ => h2) (above_end l m))
  simp only [if_neg h2]
  -- `E = B + 8`: on an empty list one of the two tests has succeeded
  have hn1 : 1 ≤ l.nodes.length := Nat.pos_of_ne_zero fun hn => by
    have hE : l.addr 1 = l.E := by have := addr_end l; rwa [hn] at this
    have hB := addr_zero l
    have := hI.proxies
    rw [hn] at h2
    omega
  by_cases h3 : (decide (l.ldp < m) && decide (m < l.ld)) = true
  · simp only [if_pos h3]
    simp only [Bool.and_eq_true, decide_eq_true_eq] at h3
    exact .direct (around_of hi (below_of hasc hi fun _ => eldp ▸ h3.1) (above_of hasc fun _ => eld ▸ h3.2))
  simp only [if_neg h3]
  simp only [Bool.and_eq_true, decide_eq_true_eq, not_and] at h3
  by_cases h4 : (decide (i + 1 = l.nodes.length + 1) || decide (m < l.ld)) = true
  · -- search `[first, ldp]`
    simp only [if_pos h4]
    simp only [Bool.or_eq_true, decide_eq_true_eq] at h4
    -- `ld` is not the first node: it is the end proxy or lies above `m`, and `m` is not below the first node
    have hi0 : 1 ≤ i := Nat.pos_of_ne_zero fun h0 => by
      subst h0
      rcases h4 with h | h
      · exact absurd (Nat.succ.inj h) (Nat.ne_of_lt hn1)
      · exact h1 (eld ▸ h)
    -- `ldp` is the last node, or `m < ld` without lying between the cursor pair
    have hmi : m ≤ l.addr i := by
      rcases h4 with h | h
      · exact Nat.succ.inj h ▸ Nat.le_of_not_gt h2
      · exact eldp ▸ Nat.le_of_not_gt fun hlt => h3 hlt h
    rw [← eldp]
    exact .walk hn1 hi0 hi (Nat.le_of_not_gt h1) hmi
  simp only [if_neg h4]
  simp only [Bool.or_eq_true, decide_eq_true_eq, not_or] at h4
  have hin : i < l.nodes.length := Nat.lt_of_le_of_ne hi fun e => h4.1 (congrArg (· + 1) e)
  by_cases h5 : m > l.ld
  · -- search `[ld, last]`
    simp only [if_pos h5]
    rw [← eld] at h5 ⊢
    exact .walk hin hn1 (Nat.le_refl _) (Nat.le_of_lt h5) (Nat.le_of_not_gt h2)
  · simp only [if_neg h5]
    have hm : l.addr (i + 1) = m := eld.trans (Nat.le_antisymm (Nat.le_of_not_gt h4.2) (Nat.le_of_not_gt h5))
    exact .cursor (hm ▸ addr_mem l (Nat.succ_pos i) hin)

section
variable {l : OrdList} {dbl : Bool} {m : Nat} {r : PosOut} {a : Bool}

theorem OrdList.Branch.found (h : Branch l dbl m r a) (hasc : Ascending l.nodes) (hd : m ∉ l.nodes ∨ dbl = true) :
    Found l m r := by
  cases h with
  | direct hA => exact Or.inl ⟨_, rfl, hA⟩
  | @walk p b hp hb1 hb hlo hhi =>
    exact go_spec l hasc dbl m hd _ p b hp hb1 hb (by omega)
      (below_of hasc (Nat.le_of_lt hp) fun h => Nat.lt_of_lt_of_le (addr_lt l hasc h (Nat.lt_succ_self p) hp) hlo)
      (above_of hasc fun h => Nat.lt_of_le_of_lt hhi (addr_lt l hasc hb1 (Nat.lt_succ_self b) h))
  | cursor hm => exact Or.inr ⟨hm, Or.inr rfl⟩

/-- both ends of the interval are nodes, so `m` lies strictly between them unless it is a node itself -/
theorem OrdList.Branch.assert_holds (h : Branch l dbl m r a) (hm : m ∉ l.nodes) : a = false := by
  cases h with
  | direct => rfl
  | @walk p b hp hb1 hb hlo hhi =>
    have h1 : l.addr (p + 1) ≠ m := fun e => hm (e ▸ addr_mem l (Nat.succ_pos p) hp)
    have h2 : l.addr b ≠ m := fun e => hm (e ▸ addr_mem l hb1 hb)
    rw [decide_eq_true (Nat.lt_of_le_of_ne hlo h1), decide_eq_true (Nat.lt_of_le_of_ne hhi (Ne.symm h2))]
    rfl
  | cursor hm' => exact absurd hm' hm

end

theorem findPos_spec (l : OrdList) (hI : l.Inv) (dbl : Bool) (m : Nat) (hd : m ∉ l.nodes ∨ dbl = true) :
    Found l m (l.findPos dbl m) :=
  (findPos_branch l hI dbl m).found hI.asc hd

theorem findPos_around (l : OrdList) (hI : l.Inv) (dbl : Bool) (m : Nat) (hm : m ∉ l.nodes) :
    ∃ i, l.findPos dbl m = .pos i (i + 1) ∧ Around l.nodes m i :=
  (findPos_spec l hI dbl m (Or.inl hm)).resolve_right fun h => hm h.1

theorem findPos_double (l : OrdList) (hI : l.Inv) (m : Nat) (hm : m ∈ l.nodes) :
    l.findPos true m = .report ∨ l.findPos true m = .unreachable :=
  ((findPos_spec l hI true m (Or.inr rfl)).resolve_left fun ⟨_, _, hA⟩ => hA.notMem hm).2

theorem intervalAssertFails_valid (l : OrdList) (hI : l.Inv) (m : Nat) (hm : m ∉ l.nodes) :
    l.intervalAssertFails m = false :=
  (findPos_branch l hI false m).assert_holds hm

theorem perm_insertAsc (m : Nat) (xs : List Nat) : (insertAsc m xs).Perm (m :: xs) := by
  induction xs with
  | nil => exact List.Perm.refl _
  | cons x xs ih =>
    unfold insertAsc
    split
    · exact List.Perm.refl _
    · exact (List.Perm.cons x ih).trans (List.Perm.swap m x xs)

theorem mem_insertAsc {m y : Nat} {xs : List Nat} : y ∈ insertAsc m xs ↔ y = m ∨ y ∈ xs :=
  (perm_insertAsc m xs).mem_iff.trans List.mem_cons

theorem length_insertAsc {m : Nat} {xs : List Nat} : (insertAsc m xs).length = xs.length + 1 :=
  (perm_insertAsc m xs).length_eq

theorem asc_insertAsc {m : Nat} {xs : List Nat} (ha : Ascending xs) (hm : m ∉ xs) : Ascending (insertAsc m xs) := by
  induction xs with
  | nil => exact List.pairwise_singleton _ _
  | cons x xs ih =>
    have ⟨hx, hxs⟩ := List.pairwise_cons.mp ha
    unfold insertAsc
    split
    · next h =>
      refine List.pairwise_cons.mpr ⟨fun y hy => ?_, ha⟩
      rcases List.mem_cons.mp hy with rfl | hy
      · exact h
      · exact Nat.lt_trans h (hx y hy)
    · next h =>
      refine List.pairwise_cons.mpr ⟨fun y hy => ?_, ih hxs fun h => hm (List.mem_cons_of_mem _ h)⟩
      rcases mem_insertAsc.mp hy with rfl | hy
      · exact Nat.lt_of_le_of_ne (Nat.le_of_not_gt h) fun e => hm (e ▸ List.mem_cons_self)
      · exact hx y hy

theorem splice_eq_insertAsc {m : Nat} {xs : List Nat} {i : Nat} (hA : Around xs m i) :
    xs.take i ++ [m] ++ xs.drop i = insertAsc m xs := by
  induction xs generalizing i with
  | nil => simp [insertAsc]
  | cons x xs ih =>
    cases i with
    | zero => simp [insertAsc, hA.cons_zero]
    | succ i =>
      obtain ⟨hx, hA'⟩ := hA.cons_succ
      simp only [insertAsc, if_neg (Nat.lt_asymm hx), List.take_succ_cons, List.drop_succ_cons, List.cons_append]
      exact congrArg (x :: ·) (ih hA')

theorem insertAsc_front {x : Nat} {xs : List Nat} (ha : Ascending (x :: xs)) : insertAsc x xs = x :: xs :=
  (splice_eq_insertAsc ⟨Nat.zero_le _, nofun, fun _ _ hj => (List.pairwise_cons.mp ha).1 _ (getD_mem hj)⟩).symm

end MemVerif.Model
